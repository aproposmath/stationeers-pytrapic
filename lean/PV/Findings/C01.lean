import PV.Props.C01Front
/-!
Negative witnesses for C01 (known findings F-C01-k, F-C01-j) — NOT proof obligations of any check.

The lowering of `for x in range(…)` keeps the loop variable in the iterator's register (`PV.Flatten.flatS`, case `forRange`,
which reproduces `handle_for` instruction for instruction).  For the two programs below (`coreK` / `coreJ` are that lowering of
`srcK` / `srcJ` written out by hand; the file does not show that they are what `PV.Flatten.flatten` returns) the chip running `comp` of it and the
reference semantics `PV.Src` perform different effects (integers, `PV.Props.C01Front.intSem`); the same programs are compiled by
the real transpiler and run against the reference on every run of C01 (witnesses in `harness/c01.py`).  This is why `for` loops
are outside the proved fragment `PV.Front`.
-/
namespace PV.Findings.C01
open PV.IC10 PV.Core
open PV.Props.C01Front (intSem)

def traceOfSrc (p : PV.Src.Program Int) (fuel : Nat) : List (String × List Int) :=
  (PV.Src.execBlock intSem (fun _ _ _ => 0) p fuel [] { globals := [], mem := fun _ => 0, sp := 0, trace := [] } p.main).1.trace.reverse.map
    (fun e => (e.tag, e.vals))

def traceOfChip (s : Stmt Int) (k : Nat) : List (String × List Int) :=
  (run intSem (fun _ _ _ => 0) (comp (fun n => (n : Int)) (fun _ => 0) s 0 0 0 0) k (mk ⟨fun _ => 0, fun _ => 0, []⟩ 0)).trace.reverse.map
    (fun e => (e.tag, e.vals))

/-- F-C01-k: `for i in range(3): s(i)` then `t(i)` — Python leaves `i = 2` -/
def srcK : PV.Src.Program Int :=
  { funcs := [], main := [.forRange true "i" (.num 0) (.num 3) (.num 1) [.write "s" [.gvar "i"]], .write "t" [.gvar "i"]] }

def coreK : Stmt Int :=
  .seq (.alu 100 "move" [.num 0])
    (.seq (.while "lt" "ge" [.reg 100, .num 3] (.seq (.store "s" [.reg 100]) (.alu 100 "add" [.reg 100, .num 1])))
      (.store "t" [.reg 100]))

theorem loop_variable_after_the_loop :
    (traceOfSrc srcK 30 == [("s", [0]), ("s", [1]), ("s", [2]), ("t", [2])] &&
     traceOfChip coreK 60 == [("s", [0]), ("s", [1]), ("s", [2]), ("t", [3])]) = true := by decide +kernel

/-- F-C01-j: `n = 3 ; for i in range(n): n = n - 1 ; s(i)` — Python evaluates `range(n)` once -/
def srcJ : PV.Src.Program Int :=
  { funcs := [], main := [.gassign "n" (.bin "add" (.num 3) (.read "l" [])),
      .forRange true "i" (.num 0) (.gvar "n") (.num 1) [.gassign "n" (.bin "sub" (.gvar "n") (.num 1)), .write "s" [.gvar "i"]]] }

def coreJ : Stmt Int :=
  .seq (.load 101 "l" []) (.seq (.alu 100 "add" [.num 3, .reg 101])
    (.seq (.alu 102 "move" [.num 0])
      (.while "lt" "ge" [.reg 102, .reg 100] (.seq (.alu 100 "sub" [.reg 100, .num 1]) (.seq (.store "s" [.reg 102]) (.alu 102 "add" [.reg 102, .num 1]))))))

theorem range_bound_read_again :
    (traceOfSrc srcJ 30 == [("s", [0]), ("s", [1]), ("s", [2])] &&
     traceOfChip coreJ 60 == [("s", [0]), ("s", [1])]) = true := by decide +kernel

end PV.Findings.C01

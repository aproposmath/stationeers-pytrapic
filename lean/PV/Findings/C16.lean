import PV.Proofs.Eval
/-!
Negative witnesses for C16 (known findings F-C16-a, F-C16-b) — NOT proof obligations of any check.
These intrinsic wrappers contradict their instruction's signature.
-/
namespace PV.Findings.C16
open PV.Gen PV.Tables PV.Eval

/-- F-C16-a: `rmap`, `ext`, `ins` have an output register in IC10 but the wrapper yields no result -/
theorem output_register_but_no_result :
    (intrinsics.filter (fun r => ["rmap", "ext", "ins"].contains r.pyName)).all
      (fun r => !r.hasOutput && !intrinsicOk r) = true := by
  unfold intrinsicOk
  simp only [← contains_strKey, lookup_strKey, ← beq_strKey]
  decide +kernel

/-- F-C16-b: the `bdns`/`bdse` family has no output register in IC10 but the wrapper yields a result -/
theorem result_but_no_output_register :
    (intrinsics.filter (fun r => ["bdns", "bdnsal", "bdse", "bdseal", "brdns", "brdse"].contains r.pyName)).all
      (fun r => r.hasOutput && !intrinsicOk r) = true := by
  unfold intrinsicOk
  simp only [← contains_strKey, lookup_strKey, ← beq_strKey]
  decide +kernel

end PV.Findings.C16

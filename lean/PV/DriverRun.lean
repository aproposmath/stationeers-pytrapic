import Lean.Data.Json
import PV.IC10.Parse
import PV.Src.Lang
import PV.Model.Labels
import PV.Model.AllocCheck
import PV.Model.Regions
import PV.Model.Flatten
import PV.Model.Front
import PV.Model.Strip
import PV.Model.Leaf
import PV.Model.StripTy
/-! Driver commands that execute programs: `run-ic10`, `run-src`, `equiv`. -/
namespace PV.DriverRun
open Lean PV.IC10 PV.IC10.Parse

def mix (h : UInt64) (x : UInt64) : UInt64 :=
  let h := (h ^^^ x) * 0x100000001b3
  h ^^^ (h >>> 29)

def floatKey (v : Float) : UInt64 := if v == 0.0 then 0 else v.toBits

/-- pseudo-random environment: an arbitrary (seeded) function of the effects so far and the query -/
def envF (seed : Nat) (pool : Array Float) : Env Float := fun trace q vals =>
  let base (q : String) : Float :=
    let h0 := mix (mix 0xcbf29ce484222325 seed.toUInt64) trace.length.toUInt64
    let h1 := match trace with
      | [] => h0
      | e :: _ => e.vals.foldl (fun h v => mix h (floatKey v)) (mix h0 (hash e.tag))
    let h2 := vals.foldl (fun h v => mix h (floatKey v)) (mix h1 (hash q))
    if pool.size == 0 then 0.0 else pool[(h2 % pool.size.toUInt64).toNat]!
  if q == "sdse" then (if base "sdse" != 0.0 && !(base "sdse").isNaN then 1.0 else 0.0)
  else if q == "sdns" then (if base "sdse" != 0.0 && !(base "sdse").isNaN then 0.0 else 1.0)
  else base q

def jFloat (v : Float) : Json :=
  -- exact: bit pattern as a decimal string (JSON numbers would round-trip through decimal)
  Json.str (toString v.toBits.toNat)

def jEff (e : Eff Float) : Json := Json.arr (#[Json.str e.tag] ++ (e.vals.map jFloat).toArray)

def floatOfJson (j : Json) : Except String Float := do
  -- accepted: string of the bit pattern, or a JSON number
  match j with
  | .str s => match s.toNat? with
    | some n => pure (Float.ofBits n.toUInt64)
    | none => throw s!"bad float bits {s}"
  | .num n => pure n.toFloat
  | _ => throw "bad float"

/-- compact the function-valued register file / memory (extensionally the identity) so that
    look-ups stay O(1) in long runs -/
def compactRegs (s : St PReg Float) : St PReg Float :=
  let arr : Array Float := Array.ofFn (n := 18) (fun i => s.regs i.val)
  { s with regs := fun r => if h : r < arr.size then arr[r] else s.regs r }

def compactMem (s : St PReg Float) : St PReg Float :=
  let arr : Array Float := Array.ofFn (n := 512) (fun i => s.mem i.val)
  { s with mem := fun a => if h : a < arr.size then arr[a] else s.mem a }

structure Monitor where
  /-- shadow call stack: return addresses pushed by `jal` -/
  shadow : List Nat := []
  /-- entry line of the callee of each pending call -/
  callee : List Nat := []
  /-- expected `sp(return) - sp(call)` per callee entry line (calling convention: arguments popped, result pushed) -/
  expect : List (Nat × Int) := []
  /-- sp recorded at each call -/
  spAtCall : List Float := []
  violations : List String := []
  maxDepth : Nat := 0

/-- run with the shadow-call-stack monitor of C06 and the region monitor of C07 -/
partial def runMon (env : Env Float) (P : List (Instr PReg Float)) (budget : Nat) (s : St PReg Float)
    (m : Monitor) (steps : Nat) : St PReg Float × Monitor × Nat :=
  if budget == 0 || s.halted then (s, m, steps) else
  let i? := P[s.pc]?
  let s' := step FloatSem.sem env P s
  let memTouched := match i? with
    | some i => (match i.kind with | .push | .poke => true | _ => false)
    | none => false
  let s'' := compactRegs s'
  let s'' := if memTouched then compactMem s'' else s''
  let m' := match i? with
    | some i =>
      match i.kind with
      | .jal => { m with shadow := (s.pc + 1) :: m.shadow, spAtCall := s.regs 16 :: m.spAtCall, callee := s'.pc :: m.callee,
                         maxDepth := max m.maxDepth (m.shadow.length + 1) }
      | .jmp =>
        -- `j ra` is a return
        (match i.args with
         | [.reg 17] =>
           match m.shadow, m.spAtCall with
           | top :: rest, sp0 :: sprest =>
             let v1 := if s'.pc != top && !s'.halted then
                 [s!"return at line {s.pc} goes to {s'.pc}, but the call being served returns to {top}"] else []
             let d := s.regs 16 - sp0
             let want : Option Int := (m.callee.head?.bind (fun c => (m.expect.find? (fun (q : Nat × Int) => q.1 == c)).map (fun (q : Nat × Int) => q.2)))
             let okd := match want with
               | some w => d == Float.ofInt w
               | none => d == 0.0 || d == 1.0
             let v2 := if !okd then [s!"return at line {s.pc}: sp differs from its value at the call by {d}" ++
                 (match want with | some w => s!" (the calling convention requires {w})" | none => "")] else []
             { m with shadow := rest, spAtCall := sprest, callee := m.callee.drop 1, violations := m.violations ++ v1 ++ v2 }
           | _, _ => { m with violations := m.violations ++ [s!"return at line {s.pc} without a call being served"] }
         | _ => m)
      | _ => m
    | none => m
  runMon env P (budget - 1) s'' m' (steps + 1)

def natListOfJson (j : Json) : Except String (List Nat) := do
  (← j.getArr?).toList.mapM (fun x => x.getNat?)

def initSt : St PReg Float :=
  { regs := fun _ => 0.0, mem := fun _ => 0.0, pc := 0, trace := [], halted := false }

def poolOf (j : Json) : Except String (Array Float) := do
  let arr ← j.getArr?
  arr.mapM floatOfJson

def runIc10 (j : Json) : Except String Json := do
  let text ← j.getObjValAs? String "text"
  let seed ← j.getObjValAs? Nat "seed"
  let steps ← j.getObjValAs? Nat "steps"
  let pool ← poolOf (← j.getObjVal? "pool")
  match parseProgram text with
  | .error e => pure (Json.mkObj [("parse_error", Json.str e)])
  | .ok pp =>
    let expect : List (Nat × Int) := match j.getObjVal? "expect" with
      | .ok ej => ((ej.getArr?).toOption.getD #[]).toList.filterMap (fun p => match p.getArr? with
          | .ok a => (match (a[0]!).getNat?, (a[1]!).getInt? with | .ok x, .ok y => some (x, y) | _, _ => none)
          | .error _ => none)
      | .error _ => []
    -- optional preloaded stack cells: [[address, float], …]
    let memInit : List (Nat × Float) := match j.getObjVal? "mem" with
      | .ok mj => ((mj.getArr?).toOption.getD #[]).toList.filterMap (fun p => match p.getArr? with
          | .ok a => (match (a[0]!).getNat?, floatOfJson (a[1]!) with | .ok x, .ok y => some (x, y) | _, _ => none)
          | .error _ => none)
      | .error _ => []
    let st0 : St PReg Float := { initSt with mem := fun a => match memInit.find? (fun (q : Nat × Float) => q.1 == a) with | some (_, v) => v | none => 0.0 }
    let (s, m, n) := runMon (envF seed pool) pp.prog steps st0 { expect := expect } 0
    pure (Json.mkObj [
      ("trace", Json.arr (s.trace.reverse.map jEff).toArray),
      ("halted", Json.bool s.halted), ("pc", Json.num (JsonNumber.fromNat s.pc)), ("steps", Json.num (JsonNumber.fromNat n)),
      ("sp", jFloat (s.regs 16)),
      ("regs", Json.arr (((match j.getObjVal? "dump" with | .ok d => (natListOfJson d).toOption.getD [] | .error _ => []).map (fun r => Json.str (toString (s.regs r)))).toArray)),
      ("call_violations", Json.arr (m.violations.map Json.str).toArray),
      ("max_depth", Json.num (JsonNumber.fromNat m.maxDepth)),
      ("lines", Json.num (JsonNumber.fromNat pp.prog.length))])

/-! ### Src programs from JSON -/
open PV.Src

partial def exprOfJson (j : Json) : Except String (Expr Float) := do
  let a ← j.getArr?
  let tag ← (a[0]!).getStr?
  match tag with
  | "num" => pure (.num (← floatOfJson a[1]!))
  | "gvar" => pure (.gvar (← (a[1]!).getStr?))
  | "lvar" => pure (.lvar (← (a[1]!).getStr?))
  | "bin" => pure (.bin (← (a[1]!).getStr?) (← exprOfJson a[2]!) (← exprOfJson a[3]!))
  | "un" => pure (.un (← (a[1]!).getStr?) (← exprOfJson a[2]!))
  | "ifexp" => pure (.ifexp (← exprOfJson a[1]!) (← exprOfJson a[2]!) (← exprOfJson a[3]!))
  | "read" => pure (.read (← (a[1]!).getStr?) (← (← (a[2]!).getArr?).toList.mapM exprOfJson))
  | "sget" => pure (.sget (← exprOfJson a[1]!))
  | "prim" => pure (.prim (← (a[1]!).getStr?) (← (← (a[2]!).getArr?).toList.mapM exprOfJson))
  | "index" => pure (.index (← (← (a[1]!).getArr?).toList.mapM exprOfJson) (← exprOfJson a[2]!))
  | "call" => pure (.call (← (a[1]!).getStr?) (← (← (a[2]!).getArr?).toList.mapM exprOfJson))
  | t => throw s!"bad expr tag {t}"

partial def stmtOfJson (j : Json) : Except String (Stmt Float) := do
  let a ← j.getArr?
  let tag ← (a[0]!).getStr?
  let block (x : Json) : Except String (List (Stmt Float)) := do (← x.getArr?).toList.mapM stmtOfJson
  match tag with
  | "gassign" => pure (.gassign (← (a[1]!).getStr?) (← exprOfJson a[2]!))
  | "lassign" => pure (.lassign (← (a[1]!).getStr?) (← exprOfJson a[2]!))
  | "write" => pure (.write (← (a[1]!).getStr?) (← (← (a[2]!).getArr?).toList.mapM exprOfJson))
  | "sput" => pure (.sput (← exprOfJson a[1]!) (← exprOfJson a[2]!))
  | "ite" => pure (.ite (← exprOfJson a[1]!) (← block a[2]!) (← block a[3]!))
  | "while" => pure (.while (← exprOfJson a[1]!) (← block a[2]!))
  | "forRange" => pure (.forRange (← (a[1]!).getBool?) (← (a[2]!).getStr?) (← exprOfJson a[3]!) (← exprOfJson a[4]!)
      (← exprOfJson a[5]!) (← block a[6]!))
  | "forList" => pure (.forList (← (a[1]!).getBool?) (← (a[2]!).getStr?) (← (← (a[3]!).getArr?).toList.mapM exprOfJson) (← block a[4]!))
  | "brk" => pure .brk
  | "cont" => pure .cont
  | "ret" => if a.size > 1 && !(a[1]!).isNull then pure (.ret (some (← exprOfJson a[1]!))) else pure (.ret none)
  | "expr" => pure (.expr (← exprOfJson a[1]!))
  | "yield" => pure .yield
  | "sleep" => pure (.sleep (← exprOfJson a[1]!))
  | "hcf" => pure .hcf
  | "push" => pure (.push (← exprOfJson a[1]!))
  | "pass" => pure .pass
  | t => throw s!"bad stmt tag {t}"

def progOfJson (j : Json) : Except String (Program Float) := do
  let fs ← (← j.getObjVal? "funcs").getArr?
  let funcs ← fs.toList.mapM (fun f => do
    let name ← f.getObjValAs? String "name"
    let params ← (← (← f.getObjVal? "params").getArr?).toList.mapM (·.getStr?)
    let body ← (← (← f.getObjVal? "body").getArr?).toList.mapM stmtOfJson
    pure ({ name := name, params := params, body := body } : Func Float))
  let main ← (← (← j.getObjVal? "main").getArr?).toList.mapM stmtOfJson
  pure { funcs := funcs, main := main }

def errStr : Err → String
  | .fuel => "fuel"
  | .unbound n => "unbound:" ++ n
  | .fault w => "fault:" ++ w
  | .halt => "halt"

def runSrc (j : Json) : Except String Json := do
  let prog ← progOfJson (← j.getObjVal? "prog")
  let seed ← j.getObjValAs? Nat "seed"
  let fuel ← j.getObjValAs? Nat "fuel"
  let pool ← poolOf (← j.getObjVal? "pool")
  -- optional explicit environment: a table [[number of effects so far, query, [operand values], value], …]; anything else reads 0
  let table : List (Nat × String × List Float × Float) := match j.getObjVal? "table" with
    | .ok tj => ((tj.getArr?).toOption.getD #[]).toList.filterMap (fun row => match row.getArr? with
        | .ok a =>
          (match (a[0]!).getNat?, (a[1]!).getStr?, (a[2]!).getArr?, floatOfJson (a[3]!) with
           | .ok n, .ok q, .ok vs, .ok v => (vs.toList.mapM floatOfJson).toOption.map (fun vals => (n, q, vals, v))
           | _, _, _, _ => none)
        | .error _ => none)
    | .error _ => []
  -- rows grouped by the number of effects so far (look-ups stay short in long runs)
  let size := table.foldl (fun m (n, _, _, _) => max m (n + 1)) 0
  let byLen : Array (List (String × List Float × Float)) :=
    table.foldl (fun (acc : Array (List (String × List Float × Float))) (n, q, vals, v) =>
      if n < acc.size then acc.modify n (fun l => (q, vals, v) :: l) else acc) (Array.replicate (min size 100000) [])
  let envT : Env Float := fun trace q vals =>
    match (byLen.getD trace.length []).find? (fun (q', vals', _) => q' == q && vals'.length == vals.length &&
        (vals'.zip vals).all (fun (x, y) => floatKey x == floatKey y)) with
    | some (_, _, v) => v
    | none => 0.0
  let env := if table.isEmpty then envF seed pool else envT
  let (st, r) := runProgram FloatSem.sem env prog fuel 0.0
  pure (Json.mkObj [
    ("trace", Json.arr (st.trace.reverse.map jEff).toArray),
    ("outcome", Json.str (match r with | .ok _ => "done" | .error e => errStr e))])

def effEq (a b : Eff Float) : Bool :=
  a.tag == b.tag && a.vals.length == b.vals.length &&
    (a.vals.zip b.vals).all (fun (x, y) => x == y || (x.isNaN && y.isNaN))

/-- length of the common prefix -/
def commonPrefix : List (Eff Float) → List (Eff Float) → Nat
  | a :: as, b :: bs => if effEq a b then commonPrefix as bs + 1 else 0
  | _, _ => 0

/-- both sides on the same environment; verdict by the prefix rule of DESIGN §2.2 -/
def equiv (j : Json) : Except String Json := do
  let prog ← progOfJson (← j.getObjVal? "prog")
  let text ← j.getObjValAs? String "text"
  let seed ← j.getObjValAs? Nat "seed"
  let fuel ← j.getObjValAs? Nat "fuel"
  let steps ← j.getObjValAs? Nat "steps"
  let pool ← poolOf (← j.getObjVal? "pool")
  let env := envF seed pool
  let (st, r) := runProgram FloatSem.sem env prog fuel 0.0
  let srcOutcome0 := match r with | .ok _ => "done" | .error e => errStr e
  if srcOutcome0.startsWith "unbound" || srcOutcome0.startsWith "fault" then
    pure (Json.mkObj [("verdict", Json.str "src-undefined"), ("src_outcome", Json.str srcOutcome0)])
  else
  match parseProgram text with
  | .error e => pure (Json.mkObj [("verdict", Json.str "parse-error"), ("detail", Json.str e)])
  | .ok pp =>
    let expect : List (Nat × Int) := match j.getObjVal? "expect" with
      | .ok ej => ((ej.getArr?).toOption.getD #[]).toList.filterMap (fun p => match p.getArr? with
          | .ok a => (match (a[0]!).getNat?, (a[1]!).getInt? with | .ok x, .ok y => some (x, y) | _, _ => none)
          | .error _ => none)
      | .error _ => []
    let (s, m, n) := runMon env pp.prog steps initSt { expect := expect } 0
    let ts := st.trace.reverse
    let ti := s.trace.reverse
    let cp := commonPrefix ts ti
    let srcOutcome := match r with | .ok _ => "done" | .error e => errStr e
    let icFault := ti.any (fun e => e.tag.startsWith "fault:")
    let verdict : String :=
      if srcOutcome.startsWith "unbound" || srcOutcome.startsWith "fault" then "src-undefined"
      else if cp < min ts.length ti.length then "trace-mismatch"
      else if icFault then "ic10-fault"
      else if srcOutcome == "done" || srcOutcome == "halt" then
        (if ti.length > ts.length then "ic10-extra-effects"
         else if ti.length < ts.length then (if s.halted then "ic10-missing-effects" else "ic10-slow-or-stuck")
         else if !s.halted then "ic10-not-halted" else "ok")
      else -- source ran out of fuel: non-terminating or long; traces must be prefix-compatible (checked above)
        (if s.halted && ti.length < ts.length then "ic10-halted-early" else "ok-prefix")
    pure (Json.mkObj [
      ("verdict", Json.str verdict), ("src_outcome", Json.str srcOutcome),
      ("src_len", Json.num (JsonNumber.fromNat ts.length)), ("ic_len", Json.num (JsonNumber.fromNat ti.length)),
      ("common", Json.num (JsonNumber.fromNat cp)),
      ("ic_halted", Json.bool s.halted), ("ic_steps", Json.num (JsonNumber.fromNat n)), ("ic_pc", Json.num (JsonNumber.fromNat s.pc)),
      -- a non-finite value in a register or stack cell at the end of the run: the program left the compared domain (NaN has no order)
      ("ic_nonfinite", Json.bool (verdict != "ok" && verdict != "ok-prefix" &&
        ((List.range 18).any (fun r => !(s.regs r).isFinite) || (List.range 512).any (fun a => !(s.mem a).isFinite)))),
      ("call_violations", Json.arr (m.violations.map Json.str).toArray),
      ("max_depth", Json.num (JsonNumber.fromNat m.maxDepth)),
      ("src_at", match ts[cp]? with | some e => jEff e | none => Json.null),
      ("ic_at", match ti[cp]? with | some e => jEff e | none => Json.null)])

def opndEq : Opnd PReg Float → Opnd PReg Float → Bool
  | .reg a, .reg b => a == b
  | .num a, .num b => a == b || (a.isNaN && b.isNaN)
  | _, _ => false

def instrEq (a b : Instr PReg Float) : Bool :=
  a.kind == b.kind && a.dst == b.dst && a.args.length == b.args.length && (a.args.zip b.args).all (fun (x, y) => opndEq x y)

/-- token-wise comparison of two lines the loader model cannot parse: same opcode, same number of operands,
    each operand pair textually equal or denoting the same number (operand kinds from the signature table) -/
def tokensSame (ta tb : List String) : Bool :=
  match ta, tb with
  | [], [] => true
  | opa :: ra, opb :: rb =>
    opa == opb && ra.length == rb.length &&
    (let kinds : List (Option Spec.OpKind) := match Spec.lookup opa with
        | some sg => (if sg.out then [none] else []) ++ sg.ins.map some
        | none => []
     (ra.zip rb).zipIdx.all (fun ((x, y), i) =>
       x == y ||
       (let pos := match kinds[i]? with | some (some k) => kindEnum k | _ => none
        match PV.Tokens.denote PV.Gen.enums pos x.toList, PV.Tokens.denote PV.Gen.enums pos y.toList with
        | some a, some b => a == b
        | _, _ => false)))
  | _, _ => false

/-- do two texts denote the same instruction sequence (C08 oracle)?  Lines are compared as parsed instructions;
    a line pair the loader model rejects is compared token by token (whether it is loadable is C09's question). -/
def sameProgram (j : Json) : Except String Json := do
  let a ← j.getObjValAs? String "a"
  let b ← j.getObjValAs? String "b"
  let la := (splitLines a).map tokenize
  let lb := (splitLines b).map tokenize
  if la.length != lb.length then
    pure (Json.mkObj [("verdict", Json.str "length"), ("a", Json.num (JsonNumber.fromNat la.length)), ("b", Json.num (JsonNumber.fromNat lb.length))])
  else
    let ca := buildCtx la
    let cb := buildCtx lb
    let lineSame (ta tb : List String) : Bool :=
      match labelOf ta, labelOf tb with
      | some x, some y => x == y
      | none, none =>
        (match instrOfLine ca ta, instrOfLine cb tb with
         | .ok ia, .ok ib => instrEq ia ib
         | _, _ => tokensSame ta tb)
      | _, _ => false
    match ((la.zip lb).zipIdx.find? (fun ((x, y), _) => !lineSame x y)) with
    | some (_, i) => pure (Json.mkObj [("verdict", Json.str "differ"), ("line", Json.num (JsonNumber.fromNat i))])
    | none =>
      let unparsed := (la.filter (fun t => (labelOf t).isNone && (match instrOfLine ca t with | .ok _ => false | .error _ => true))).length
      pure (Json.mkObj [("verdict", Json.str "same"), ("lines", Json.num (JsonNumber.fromNat la.length)),
                        ("unparsed", Json.num (JsonNumber.fromNat unparsed))])

/-- grammar check of a whole text by the loader model (C09): every line that is not a label definition must be
    one instruction with an existing opcode and operands of the right number and kind -/
def wf (j : Json) : Except String Json := do
  let text ← j.getObjValAs? String "text"
  let lines := (splitLines text).map tokenize
  let ctx := buildCtx lines
  let errs := lines.zipIdx.filterMap (fun (toks, i) =>
    match labelOf toks with
    | some _ => none
    | none => match instrOfLine ctx toks with
      | .ok _ => none      -- grammatical (an opcode the machine model cannot execute is still loadable IC10)
      | .error e => some (i, e))
  -- duplicate label definitions
  let names := ctx.labels.map (·.1)
  let dups := names.filter (fun n => (names.filter (· == n)).length > 1)
  pure (Json.mkObj [
    ("errors", Json.arr (errs.map (fun (i, e) => Json.arr #[Json.num (JsonNumber.fromNat i), Json.str e])).toArray),
    ("duplicate_labels", Json.arr (dups.eraseDups.map Json.str).toArray),
    ("lines", Json.num (JsonNumber.fromNat lines.length))])

/-- text → lines of the label model (comments stripped, tokens; blank lines are instructions without tokens) -/
def linesOfText (text : String) : List PV.Labels.Line :=
  if text.isEmpty then [] else          -- the empty text is the empty program (no line), not one blank line
  (splitLines text).map (fun l =>
    let toks := tokenize l
    match labelOf toks with
    | some n => PV.Labels.Line.label n
    | none => PV.Labels.Line.instr toks)

/-- C05: is `numeric` (real output with labels removed) line for line `specRemove` of `labelled` (real output with labels kept)? -/
def labelsCompare (j : Json) : Except String Json := do
  let labelled ← j.getObjValAs? String "labelled"
  let numeric ← j.getObjValAs? String "numeric"
  let p := linesOfText labelled
  let spec := PV.Labels.specRemove p
  -- the empty text is the empty program (no line), not one blank line
  let real := if numeric.isEmpty then [] else (splitLines numeric).map tokenize
  let defs := p.filterMap (fun l => match l with | .label n => some n | _ => none)
  let dups := (defs.filter (fun n => PV.Labels.defCount n p > 1)).eraseDups
  let jl (ls : List (List String)) := Json.arr (ls.map (fun t => Json.str (" ".intercalate t))).toArray
  if spec.length != real.length then
    pure (Json.mkObj [("verdict", Json.str "length"), ("spec", Json.num (JsonNumber.fromNat spec.length)), ("real", Json.num (JsonNumber.fromNat real.length)),
                      ("duplicate_labels", Json.arr (dups.map Json.str).toArray)])
  else
    match (spec.zip real).zipIdx.find? (fun ((a, b), _) => a != b) with
    | some ((a, b), i) => pure (Json.mkObj [("verdict", Json.str "differ"), ("line", Json.num (JsonNumber.fromNat i)),
        ("spec", Json.str (" ".intercalate a)), ("real", Json.str (" ".intercalate b)), ("duplicate_labels", Json.arr (dups.map Json.str).toArray)])
    | none => pure (Json.mkObj [("verdict", Json.str "same"), ("lines", Json.num (JsonNumber.fromNat spec.length)),
        ("labels", Json.num (JsonNumber.fromNat defs.length)), ("duplicate_labels", Json.arr (dups.map Json.str).toArray),
        ("spec_text", jl spec)])

/-! ### C04: allocation validator and side-by-side execution -/

def checkAlloc (j : Json) : Except String Json := do
  let text ← j.getObjValAs? String "text"
  let mapJ ← (← j.getObjVal? "map").getArr?
  let table ← mapJ.toList.mapM (fun p => do
    let a ← p.getArr?
    pure ((← (a[0]!).getNat?), (← (a[1]!).getNat?)))
  let liveIn ← (← (← j.getObjVal? "live_in").getArr?).toList.mapM natListOfJson
  let liveOut ← (← (← j.getObjVal? "live_out").getArr?).toList.mapM natListOfJson
  let indirectJ ← (← j.getObjVal? "indirect").getArr?
  let indirect ← indirectJ.toList.mapM (fun p => do
    let a ← p.getArr?
    pure ((← (a[0]!).getNat?), (← natListOfJson a[1]!)))
  match parseProgram text with
  | .error e => pure (Json.mkObj [("verdict", Json.str "parse-error"), ("detail", Json.str e)])
  | .ok pp =>
    let ρ : Nat → Nat := fun r => match table.find? (·.1 == r) with | some (_, p) => p | none => r
    let liA := liveIn.toArray
    let loA := liveOut.toArray
    let C : PV.AllocCheck.Cert Nat := { liveIn := fun pc => liA.getD pc [16, 17], liveOut := fun pc => loA.getD pc [16, 17] }
    let bad := pp.prog.zipIdx.find? (fun (i, pc) => !PV.AllocCheck.okAt ρ C pc i)
    match bad with
    | some (i, pc) =>
      -- which clause
      let clash := (PV.AllocCheck.defs i).filterMap (fun d => ((C.liveOut pc).find? (fun v => v != d && ρ v == ρ d)).map (fun v => (d, v)))
      pure (Json.mkObj [("verdict", Json.str "reject"), ("line", Json.num (JsonNumber.fromNat pc)),
        ("reason", Json.str (if clash.isEmpty then "certificate-inconsistent" else "clash")),
        ("clash", Json.arr (clash.map (fun (d, v) => Json.arr #[Json.num (JsonNumber.fromNat d), Json.num (JsonNumber.fromNat v), Json.num (JsonNumber.fromNat (ρ d))])).toArray)])
    | none =>
      -- every static edge (PV.Cfg.succs) and every declared successor of an indirect jump must be covered: the function
      -- `edgesOk` of the theorem `checkAlloc_sound_static`
      let declared : Nat → List Nat := fun pc => ((indirect.find? (fun (q : Nat × List Nat) => q.1 == pc)).map (fun (q : Nat × List Nat) => q.2)).getD []
      let eok := PV.AllocCheck.edgesOk FloatSem.sem C pp.prog declared
      let edgeBad := pp.prog.zipIdx.findSome? (fun (i, pc) =>
        let succs := match PV.Cfg.succs FloatSem.sem pc i with
          | some l => l
          | none => declared pc
        (succs.find? (fun n => !PV.AllocCheck.succOk C pc n)).map (fun n => (pc, n)))
      let undeclared := pp.prog.zipIdx.filter (fun (i, pc) => (PV.Cfg.succs FloatSem.sem pc i).isNone && (indirect.find? (fun (q : Nat × List Nat) => q.1 == pc)).isNone)
      if !eok then
        match edgeBad with
        | some (pc, n) => pure (Json.mkObj [("verdict", Json.str "reject"), ("line", Json.num (JsonNumber.fromNat pc)), ("reason", Json.str "edge"),
            ("to", Json.num (JsonNumber.fromNat n))])
        | none => pure (Json.mkObj [("verdict", Json.str "reject"), ("reason", Json.str "edge")])
      else if !undeclared.isEmpty then
        pure (Json.mkObj [("verdict", Json.str "reject"), ("reason", Json.str "indirect-jump-without-declared-successors"),
          ("line", Json.num (JsonNumber.fromNat ((undeclared.head?.map (·.2)).getD 0)))])
      else
        pure (Json.mkObj [("verdict", Json.str "accept"), ("lines", Json.num (JsonNumber.fromNat pp.prog.length)),
          ("indirect", Json.num (JsonNumber.fromNat indirect.length))])

/-- run two programs with the same line structure side by side on the same environment and compare line, stack pointer,
    trace and halting status after every step -/
partial def runPairLoop (env : Env Float) (P Q : List (Instr PReg Float)) (indirect : List (Nat × List Nat)) (budget : Nat)
    (s t : St PReg Float) (n : Nat) : Nat × Option String × Bool :=
  if budget == 0 || (s.halted && t.halted) then (n, none, false) else
  let s' := compactRegs (step FloatSem.sem env P s)
  let t' := compactRegs (step FloatSem.sem env Q t)
  let s' := compactMem s'
  let t' := compactMem t'
  -- the soundness theorem's side condition: an indirect jump of the ORIGINAL program must land on a declared successor;
  -- an execution that leaves them (index out of range in a jump table, …) is outside the compared domain
  let outside := match indirect.find? (fun (q : Nat × List Nat) => q.1 == s.pc) with
    | some (_, succs) => !s'.halted && !succs.contains s'.pc
    | none => false
  if outside then (n, none, true)
  else if s'.pc != t'.pc then (n, some s!"after step {n} (line {s.pc}): next line {s'.pc} vs {t'.pc}", false)
  else if s'.halted != t'.halted then (n, some s!"after step {n} (line {s.pc}): halted {s'.halted} vs {t'.halted}", false)
  else if s'.trace.length != t'.trace.length || !((s'.trace.head?.bind (fun a => t'.trace.head?.map (fun b => effEq a b))).getD true) then
    (n, some s!"after step {n} (line {s.pc}): the effect performed differs", false)
  else runPairLoop env P Q indirect (budget - 1) s' t' (n + 1)

def runPair (j : Json) : Except String Json := do
  let a ← j.getObjValAs? String "a"
  let b ← j.getObjValAs? String "b"
  let seed ← j.getObjValAs? Nat "seed"
  let steps ← j.getObjValAs? Nat "steps"
  let pool ← poolOf (← j.getObjVal? "pool")
  match parseProgram a, parseProgram b with
  | .error e, _ => pure (Json.mkObj [("verdict", Json.str "parse-error-a"), ("detail", Json.str e)])
  | _, .error e => pure (Json.mkObj [("verdict", Json.str "parse-error-b"), ("detail", Json.str e)])
  | .ok pa, .ok pb =>
    let indirect ← match j.getObjVal? "indirect" with
      | .ok ij => (← ij.getArr?).toList.mapM (fun p => do
          let a ← p.getArr?
          pure ((← (a[0]!).getNat?), (← natListOfJson a[1]!)))
      | .error _ => pure []
    let (n, r, outside) := runPairLoop (envF seed pool) pa.prog pb.prog indirect steps initSt initSt 0
    match r with
    | some why => pure (Json.mkObj [("verdict", Json.str "diverge"), ("detail", Json.str why), ("steps", Json.num (JsonNumber.fromNat n))])
    | none => pure (Json.mkObj [("verdict", Json.str (if outside then "outside-declared-successors" else "same")), ("steps", Json.num (JsonNumber.fromNat n))])

/-! ### C07: regions -/

def pairListOfJson (j : Json) : Except String (List (Nat × Nat)) := do
  (← j.getArr?).toList.mapM (fun p => do
    let a ← p.getArr?
    pure ((← (a[0]!).getNat?), (← (a[1]!).getNat?)))

/-- static region check (the function the theorem `checkFall_sound` is about) plus the list of offending edges -/
def checkFallCmd (j : Json) : Except String Json := do
  let text ← j.getObjValAs? String "text"
  let owners ← natListOfJson (← j.getObjVal? "owners")
  let entries ← natListOfJson (← j.getObjVal? "entries")
  let allow ← pairListOfJson (← j.getObjVal? "allow")
  match parseProgram text with
  | .error e => pure (Json.mkObj [("verdict", Json.str "parse-error"), ("detail", Json.str e)])
  | .ok pp =>
    let oa := owners.toArray
    let owner : Nat → Nat := fun n => oa.getD n 0
    let ok := PV.Regions.checkFall FloatSem.sem pp.prog owner entries allow
    let bad := pp.prog.zipIdx.flatMap (fun (i, pc) =>
      match PV.Cfg.succs FloatSem.sem pc i with
      | some l => (l.filter (fun n => !PV.Regions.edgeOk pp.prog.length owner entries allow pc i.kind n)).map (fun n => (pc, n))
      | none => [])
    pure (Json.mkObj [("verdict", Json.str (if ok then "accept" else "reject")),
      ("bad_edges", Json.arr (bad.map (fun (a, b) => Json.arr #[Json.num (JsonNumber.fromNat a), Json.num (JsonNumber.fromNat b)])).toArray)])

/-- run and report every step that enters another region otherwise than by a call to an entry or a jump through a register -/
partial def runRegionsLoop (env : Env Float) (P : List (Instr PReg Float)) (owner : Nat → Nat) (entries : List Nat) (budget : Nat)
    (s : St PReg Float) (acc : List (Nat × Nat × Nat)) : St PReg Float × List (Nat × Nat × Nat) :=
  if budget == 0 || s.halted then (s, acc) else
  let s' := compactMem (compactRegs (step FloatSem.sem env P s))
  let acc' := match P[s.pc]? with
    | some i =>
      if s'.halted || s'.pc ≥ P.length || owner s'.pc == owner s.pc then acc
      else if (PV.Cfg.succs FloatSem.sem s.pc i).isNone then acc
      else if PV.Regions.isCall i.kind && entries.contains s'.pc then acc
      else (s.pc, s'.pc, s.trace.length) :: acc
    | none => acc
  runRegionsLoop env P owner entries (budget - 1) s' acc'

def runRegions (j : Json) : Except String Json := do
  let text ← j.getObjValAs? String "text"
  let owners ← natListOfJson (← j.getObjVal? "owners")
  let entries ← natListOfJson (← j.getObjVal? "entries")
  let seed ← j.getObjValAs? Nat "seed"
  let steps ← j.getObjValAs? Nat "steps"
  let pool ← poolOf (← j.getObjVal? "pool")
  match parseProgram text with
  | .error e => pure (Json.mkObj [("verdict", Json.str "parse-error"), ("detail", Json.str e)])
  | .ok pp =>
    let oa := owners.toArray
    let owner : Nat → Nat := fun n => oa.getD n 0
    let (s, acc) := runRegionsLoop (envF seed pool) pp.prog owner entries steps initSt []
    -- effects performed after the first illegal entry
    let firstBad := acc.reverse.head?
    pure (Json.mkObj [
      ("halted", Json.bool s.halted), ("pc", Json.num (JsonNumber.fromNat s.pc)), ("trace_len", Json.num (JsonNumber.fromNat s.trace.length)),
      ("illegal_entries", Json.arr (acc.reverse.map (fun (a, b, t) => Json.arr #[Json.num (JsonNumber.fromNat a), Json.num (JsonNumber.fromNat b), Json.num (JsonNumber.fromNat t)])).toArray),
      ("effects_after_first", Json.num (JsonNumber.fromNat (match firstBad with | some (_, _, t) => s.trace.length - t | none => 0))),
      ("lines", Json.num (JsonNumber.fromNat pp.prog.length))])

/-! ### C01 core: the model generator vs the real pre-allocation code -/

/-- the flattened program under the core reference semantics against the source under `PV.Src` on one environment:
    the unproved step (`flatten`) is compared executably; prefix rule when either side runs out of fuel -/
def flatAgrees (prog : Program Float) (core : PV.Core.Stmt Float) (procs : List (PV.Core.Stmt Float)) (seed fuel : Nat) (pool : Array Float) : String :=
  let env := envF seed pool
  let (st, r) := runProgram FloatSem.sem env prog fuel 0.0
  let ts := st.trace.reverse
  let (tc, cdone) := match PV.Core.exec FloatSem.sem env (PV.Core.procOf procs) fuel core ⟨fun _ => 0.0, fun _ => 0.0, []⟩ with
    | .ok _ s => (s.trace.reverse, true)
    | .timeout s => (s.trace.reverse, false)
    | .stuck => ([], false)
  let cp := commonPrefix ts tc
  let sdone := match r with | .ok _ => true | .error _ => false
  if cp < min ts.length tc.length then s!"flatten-trace-mismatch at {cp}"
  else if sdone && cdone && ts.length != tc.length then "flatten-length-mismatch"
  else if sdone && !cdone && tc.length > ts.length then "flatten-extra-effects"
  else if cdone && !sdone && ts.length > tc.length then "flatten-missing-effects"
  else "ok"

def floatCfg : PV.Flatten.Cfg Float :=
  { zero := 0.0, negV := fun v => -v, isOne := fun v => v == 1.0, isNeg := fun v => v < 0.0, ofNat := fun n => Float.ofNat n }

/-- is the real code (text with virtual registers and labels) instruction for instruction `compProg (flatten src)`? -/
def coreCompare (j : Json) : Except String Json := do
  let prog ← progOfJson (← j.getObjVal? "prog")
  let text ← j.getObjValAs? String "text"
  let inline := (j.getObjValAs? Bool "inline").toOption.getD false
  match PV.Flatten.flatten floatCfg inline prog with
  | none => pure (Json.mkObj [("verdict", Json.str "outside-core")])
  | some (core, procs, ranks) =>
    -- the executable form of the theorems' hypotheses: `Good` (branch pairs from the real tables, `ra` / `sp` untouched, own-stack
    -- memory only at literal addresses from `lo` = 64 on, calls of existing procedures) for the main code; for procedure `k` the
    -- same with calls restricted to procedures of smaller rank; all ranks below `lo`
    let lo := 64
    let idxs := List.range procs.length
    let rk : Nat → Nat := fun k => ranks.getD k 0
    let good := PV.Core.goodB FloatSem.sem lo PV.Flatten.branchPairs idxs core &&
      procs.zipIdx.all (fun (b, k) => PV.Core.goodB FloatSem.sem lo PV.Flatten.branchPairs (idxs.filter (fun j => rk j < rk k)) b) &&
      ranks.all (fun r => r + 1 ≤ lo)
    if !good then pure (Json.mkObj [("verdict", Json.str "negok-false")]) else
    let flat : String := match j.getObjValAs? Nat "seed", j.getObjValAs? Nat "fuel", (j.getObjVal? "pool").bind poolOf with
      | .ok seed, .ok fuel, .ok pool => flatAgrees prog core procs seed fuel pool
      | _, _, _ => "not-run"
    if flat != "ok" && flat != "not-run" then pure (Json.mkObj [("verdict", Json.str "flatten-disagrees"), ("detail", Json.str flat)]) else
    let model := PV.Core.compProg (fun n => Float.ofNat n) core procs
    match parseProgram text with
    | .error e => pure (Json.mkObj [("verdict", Json.str "parse-error"), ("detail", Json.str e)])
    | .ok pp =>
      let a := PV.Flatten.canon model
      let b := PV.Flatten.canon pp.prog
      let extra := [("procs", Json.num (JsonNumber.fromNat procs.length))]
      if a.length != b.length then
        pure (Json.mkObj ([("verdict", Json.str "length"), ("model", Json.num (JsonNumber.fromNat a.length)), ("real", Json.num (JsonNumber.fromNat b.length)),
          ("model_code", Json.arr (a.map Json.str).toArray), ("real_code", Json.arr (b.map Json.str).toArray)] ++ extra))
      else
        match (a.zip b).zipIdx.find? (fun ((x, y), _) => x != y) with
        | some ((x, y), i) => pure (Json.mkObj ([("verdict", Json.str "differ"), ("line", Json.num (JsonNumber.fromNat i)), ("model", Json.str x), ("real", Json.str y),
            ("model_code", Json.arr (a.map Json.str).toArray), ("real_code", Json.arr (b.map Json.str).toArray)] ++ extra))
        | none =>
          -- the proved front-end fragment: inside it, `PV.Front.flatten` must yield what `PV.Flatten.flatten` yields (then
          -- `PV.Props.C01Front.source_to_chip_done` speaks about this program's real code)
          let front : String := match PV.Front.flatten floatCfg prog with
            | none => "outside"
            | some s => if procs.isEmpty && PV.Flatten.canon (PV.Core.compProg (fun n => Float.ofNat n) s []) == a then "same" else "differ"
          -- the hypotheses `PV.Front.SemOk` about the value domain, evaluated on this program's value pool
          let vals : List Float := (match (j.getObjVal? "pool").bind poolOf with | .ok pool => pool.toList | _ => []) ++ [0.0, 1.0, -1.0, 2.5]
          let sem := FloatSem.sem
          let semok := vals.all (fun v => sem.alu "sub" [sem.ofNat 0, v] == floatCfg.negV v && sem.alu "move" [v] == v &&
              (!floatCfg.isOne v || sem.truthy v) && sem.truthy v == sem.cond "nez" [v] && sem.truthy (sem.alu "seqz" [v]) == sem.cond "eqz" [v] &&
              vals.all (fun w => sem.alu "select" [v, w, 7.0] == (if sem.truthy v then w else 7.0) && sem.alu "select" [v, 7.0, w] == (if sem.truthy v then 7.0 else w)) &&
              vals.all (fun w => PV.Flatten.cmpNames.all (fun op => match PV.Flatten.branchPair op with
                | some (c, _) => sem.truthy (sem.alu op [v, w]) == sem.cond c [v, w]
                | none => false)))
          pure (Json.mkObj ([("verdict", Json.str "same"), ("lines", Json.num (JsonNumber.fromNat a.length)), ("flatten", Json.str flat),
            ("front", Json.str front), ("semok", Json.bool semok)] ++ extra))

/-! ### C05: label removal at machine level -/

/-- is the REAL output without labels the machine-level `strip` of the REAL output with labels, and is the program inside the
    fragment `strip_sim_fwd` / `strip_sim_bwd` cover (every kept line `simple`)? -/
def stripCompare (j : Json) : Except String Json := do
  let labelled ← j.getObjValAs? String "labelled"
  let stripped ← j.getObjValAs? String "stripped"
  match parseProgram labelled, parseProgram stripped with
  | .error e, _ => pure (Json.mkObj [("verdict", Json.str "parse-error"), ("detail", Json.str ("labelled: " ++ e))])
  | _, .error e => pure (Json.mkObj [("verdict", Json.str "parse-error"), ("detail", Json.str ("stripped: " ++ e))])
  | .ok p, .ok q =>
    let lab : Nat → Bool := fun i => p.isLabel.getD i false
    let s := PV.Strip.strip FloatSem.sem (fun n => Float.ofNat n) lab p.prog
    let notSimple := (p.prog.zipIdx.filter (fun (i, k) => !lab k && !PV.Strip.simple FloatSem.sem i)).map (·.2)
    let covered := notSimple.isEmpty
    let extra := [("covered", Json.bool covered), ("not_simple", Json.arr ((notSimple.take 8).map (fun n => Json.num (JsonNumber.fromNat n))).toArray),
      ("labels", Json.num (JsonNumber.fromNat (p.isLabel.filter id).length)), ("lines", Json.num (JsonNumber.fromNat p.prog.length))]
    let qprog := if stripped.isEmpty then [] else q.prog
    let s := if labelled.isEmpty then [] else s
    if s.length != qprog.length then
      pure (Json.mkObj ([("verdict", Json.str "length"), ("model", Json.num (JsonNumber.fromNat s.length)), ("real", Json.num (JsonNumber.fromNat qprog.length))] ++ extra))
    else
      match (s.zip qprog).zipIdx.find? (fun ((a, b), _) => !instrEq a b) with
      | some (_, i) => pure (Json.mkObj ([("verdict", Json.str "differ"), ("line", Json.num (JsonNumber.fromNat i))] ++ extra))
      | none => pure (Json.mkObj ([("verdict", Json.str "same")] ++ extra))

/-- first step at which the typing of `PV.Strip.tyRun` fails: (step number, line), for the report only -/
partial def tyDiag (env : Env Float) (P : List (Instr PReg Float)) (lab : Nat → Bool) (budget : Nat) (s : St PReg Float) (T : PV.Strip.Ty PReg)
    (k : Nat) : Option (Nat × Nat) :=
  if budget == 0 || s.halted then none else
  match P[s.pc]? with
  | none => none
  | some i =>
    if lab s.pc then tyDiag env P lab (budget - 1) (step FloatSem.sem env P s) T (k + 1) else
    match PV.Strip.tyStep FloatSem.sem T s i with
    | none => some (k, s.pc)
    | some T' => tyDiag env P lab (budget - 1) (step FloatSem.sem env P s) T' (k + 1)

/-- the hypothesis of `PV.Props.C05.label_removal_preserves_traces_typed` on one run of a REAL output pair: is the label-free output `strip` of the
    labelled one, and is the run of the labelled output well typed for `steps` steps (no line number used as a value)?  Also
    compares the two effect traces directly (what the theorem concludes). -/
def stripRun (j : Json) : Except String Json := do
  let labelled ← j.getObjValAs? String "labelled"
  let stripped ← j.getObjValAs? String "stripped"
  let seed ← j.getObjValAs? Nat "seed"
  let steps ← j.getObjValAs? Nat "steps"
  let pool ← poolOf (← j.getObjVal? "pool")
  match parseProgram labelled, parseProgram stripped with
  | .error e, _ => pure (Json.mkObj [("verdict", Json.str "parse-error"), ("detail", Json.str ("labelled: " ++ e))])
  | _, .error e => pure (Json.mkObj [("verdict", Json.str "parse-error"), ("detail", Json.str ("stripped: " ++ e))])
  | .ok p, .ok q =>
    let lab : Nat → Bool := fun i => p.isLabel.getD i false
    let sp := if labelled.isEmpty then [] else PV.Strip.strip FloatSem.sem (fun n => Float.ofNat n) lab p.prog
    let qprog := if stripped.isEmpty then [] else q.prog
    let same := sp.length == qprog.length && (sp.zip qprog).all (fun (a, b) => instrEq a b)
    let env := envF seed pool
    let typed := (PV.Strip.tyRun FloatSem.sem env p.prog lab steps initSt PV.Strip.Ty.none).isSome
    let diag := if typed then none else tyDiag env p.prog lab steps initSt PV.Strip.Ty.none 0
    let sP := run FloatSem.sem env p.prog steps initSt
    let sQ := run FloatSem.sem env qprog steps initSt
    let tP := sP.trace.reverse
    let tQ := sQ.trace.reverse
    let cp := commonPrefix tP tQ
    let tracesOk := cp == min tP.length tQ.length && tP.length ≤ tQ.length
    pure (Json.mkObj [("verdict", Json.str "done"), ("same", Json.bool same), ("typed", Json.bool typed), ("traces_ok", Json.bool tracesOk),
      ("ill_typed_at", match diag with | some (k, pc) => Json.arr #[Json.num (JsonNumber.fromNat k), Json.num (JsonNumber.fromNat pc)] | none => Json.null),
      ("effects", Json.num (JsonNumber.fromNat tP.length))])

/-! ### C06: leaf functions -/

/-- per function body `[lo, hi)` of the REAL allocated code: does `checkLeaf` accept it (hypothesis of `leaf_returns` /
    `call_leaf_returns`), and does it contain a call at all? -/
def checkLeafCmd (j : Json) : Except String Json := do
  let text ← j.getObjValAs? String "text"
  let regions ← pairListOfJson (← j.getObjVal? "regions")
  match parseProgram text with
  | .error e => pure (Json.mkObj [("verdict", Json.str "parse-error"), ("detail", Json.str e)])
  | .ok pp =>
    let res := regions.map (fun (lo, hi) =>
      let body := (pp.prog.drop lo).take (hi - lo)
      let hasCall := body.any (fun i => i.kind == .jal)
      let writesRa := body.any (fun i => i.dst == some (Special.ra : PReg))
      let ok := PV.Leaf.checkLeaf FloatSem.sem pp.prog lo hi
      Json.mkObj [("lo", Json.num (JsonNumber.fromNat lo)), ("hi", Json.num (JsonNumber.fromNat hi)), ("leaf_ok", Json.bool ok),
        ("has_call", Json.bool hasCall), ("writes_ra", Json.bool writesRa)])
    pure (Json.mkObj [("verdict", Json.str "done"), ("regions", Json.arr res.toArray)])

end PV.DriverRun

/-
The IC10 target machine — trusted specification (DESIGN §2).

* generic in the register-name type `R` (physical registers, or virtual registers before allocation)
  and in the value type `V`; all value-level behaviour (arithmetic, comparisons, conversions) is in a
  `Sem V` record, so the meta-theory never looks inside an opcode;
* `step` is factored as  *read operands → register-agnostic `exec` → write back*, so the register-renaming meta-theory (C04) never looks inside an opcode;
* externally visible effects are appended to `trace` (newest first); device reads are answered by an
  environment that is an arbitrary function of the effects performed so far and the query.
No imports: linked into `pvdrv`.
-/
namespace PV.IC10

inductive Opnd (R V : Type) where
  | reg (r : R)
  | num (v : V)
  deriving Repr

/-- instruction kinds; the strings name the concrete opcode inside a kind -/
inductive Kind where
  | alu (op : String)        -- dst := sem.alu op vals
  | load (q : String)        -- dst := env trace q vals          (device / slot / batch / foreign stack reads, rand, sdse …)
  | store (q : String)       -- effect  (q, vals)                (s ss sb sbn sbs, put/putd to other devices)
  | br (c : String)          -- if sem.cond c (vals without last) then pc := target(last)
  | brr (c : String)         -- … then pc := pc + offset(last)      (relative forms, `jr` is `brr "always"`)
  | brq (q : String) (neg : Bool)   -- branch on a device-state query (bdse / bdns)
  | jmp                      -- pc := target
  | jal                      -- ra := pc + 1 ; pc := target
  | push | pop | peek
  | poke                     -- mem[a] := v        (also `put db a v`)
  | getdb                    -- dst := mem[a]      (`get r db a`)
  | yield | sleep | hcf
  | nop                      -- label line, alias, define
  | bad (why : String)       -- not executable: the chip faults when it reaches this line
  deriving Repr, DecidableEq

structure Instr (R V : Type) where
  kind : Kind
  dst : Option R
  args : List (Opnd R V)
  deriving Repr

/-- externally visible effect: a tag and the values involved -/
structure Eff (V : Type) where
  tag : String
  vals : List V
  deriving Repr

abbrev Env (V : Type) := List (Eff V) → String → List V → V

/-- value-level semantics of the chip (parameter of the machine) -/
structure Sem (V : Type) where
  alu : String → List V → V
  cond : String → List V → Bool
  /-- truncation of a value to a line number / stack address; `none` for negative or non-finite -/
  toAddr : V → Option Nat
  ofNat : Nat → V
  truthy : V → Bool

class Special (R : Type) where
  sp : R
  ra : R

structure St (R V : Type) where
  regs : R → V
  mem : Nat → V
  pc : Nat
  trace : List (Eff V)
  halted : Bool

def stackSize : Nat := 512

section
variable {R V : Type} [DecidableEq R] [Special R]

def upd (f : R → V) (r : R) (v : V) : R → V := fun x => if x = r then v else f x
def updMem (m : Nat → V) (a : Nat) (v : V) : Nat → V := fun x => if x = a then v else m x

def Opnd.eval (f : R → V) : Opnd R V → V
  | .reg r => f r
  | .num v => v

def writeDst (f : R → V) : Option R → V → R → V
  | none, _ => f
  | some d, v => upd f d v

/-- how an instruction leaves the program counter -/
inductive Next where
  | seq                       -- pc + 1
  | jump (n : Nat)
  | halt                      -- hcf
  | fault (why : String)      -- the chip stops with an error
  deriving Repr, DecidableEq

/-- everything an instruction does, computed WITHOUT looking at register names: the value for its destination, new `sp` /
    `ra`, one stack write, new effects (newest first), and where to go -/
structure Out (V : Type) where
  dst : Option V := none
  sp : Option V := none
  ra : Option V := none
  mem : Option (Nat × V) := none
  effs : List (Eff V) := []
  next : Next := .seq

/-- a value used as a jump target -/
def target (sem : Sem V) (v : V) : Next :=
  match sem.toAddr v with
  | some n => .jump n
  | none => .fault "jump"

/-- **the register-agnostic action of every instruction kind**: a function of the operand values, the value of `sp`, the
    current line, the stack memory and the effects so far -/
def exec (sem : Sem V) (env : Env V) (k : Kind) (vals : List V) (spv : V) (pc : Nat) (mem : Nat → V)
    (trace : List (Eff V)) : Out V :=
  match k with
  | .alu op => { dst := some (sem.alu op vals) }
  | .load q => { dst := some (env trace q vals) }
  | .store q => { effs := [⟨q, vals⟩] }
  | .br c => if sem.cond c vals.dropLast then { next := target sem (vals.getLastD (sem.ofNat 0)) } else {}
  | .brr c =>
      if sem.cond c vals.dropLast then { next := target sem (sem.alu "add" [sem.ofNat pc, vals.getLastD (sem.ofNat 0)]) } else {}
  | .brq q neg =>
      if (sem.truthy (env trace q vals.dropLast)) != neg then { next := target sem (vals.getLastD (sem.ofNat 0)) } else {}
  | .jmp => { next := target sem (vals.headD (sem.ofNat 0)) }
  | .jal => { ra := some (sem.ofNat (pc + 1)), next := target sem (vals.headD (sem.ofNat 0)) }
  | .push =>
      match sem.toAddr spv with
      | some a =>
        if a < stackSize then { mem := some (a, vals.headD (sem.ofNat 0)), sp := some (sem.ofNat (a + 1)) }
        else { next := .fault "stack-overflow" }
      | none => { next := .fault "stack-pointer" }
  | .pop =>
      match sem.toAddr spv with
      | some (a + 1) =>
        if a < stackSize then { dst := some (mem a), sp := some (sem.ofNat a) } else { next := .fault "stack-overflow" }
      | _ => { next := .fault "stack-underflow" }
  | .peek =>
      match sem.toAddr spv with
      | some (a + 1) => if a < stackSize then { dst := some (mem a) } else { next := .fault "stack-overflow" }
      | _ => { next := .fault "stack-underflow" }
  | .poke =>
      match vals with
      | [a, v] =>
        match sem.toAddr a with
        | some n => if n < stackSize then { mem := some (n, v) } else { next := .fault "stack-address" }
        | none => { next := .fault "stack-address" }
      | _ => { next := .fault "operands" }
  | .getdb =>
      match vals with
      | [a] =>
        match sem.toAddr a with
        | some n => if n < stackSize then { dst := some (mem n) } else { next := .fault "stack-address" }
        | none => { next := .fault "stack-address" }
      | _ => { next := .fault "operands" }
  | .yield => { effs := [⟨"yield", []⟩] }
  | .sleep => { effs := [⟨"sleep", vals⟩] }
  | .hcf => { effs := [⟨"hcf", []⟩], next := .halt }
  | .nop => {}
  | .bad why => { next := .fault why }

def updOpt (f : R → V) (r : R) : Option V → R → V
  | none => f
  | some v => upd f r v

/-- write the outcome back: `sp`, `ra`, then the instruction's own destination -/
def writeBack (f : R → V) (dst : Option R) (o : Out V) : R → V :=
  let f1 := updOpt f Special.sp o.sp
  let f2 := updOpt f1 Special.ra o.ra
  match dst, o.dst with
  | some d, some v => upd f2 d v
  | _, _ => f2

def applyOut (s : St R V) (dst : Option R) (o : Out V) : St R V :=
  let regs := writeBack s.regs dst o
  let mem := match o.mem with
    | some (a, v) => updMem s.mem a v
    | none => s.mem
  let trace := o.effs ++ s.trace
  match o.next with
  | .seq => { regs := regs, mem := mem, pc := s.pc + 1, trace := trace, halted := false }
  | .jump n => { regs := regs, mem := mem, pc := n, trace := trace, halted := false }
  | .halt => { regs := regs, mem := mem, pc := s.pc, trace := trace, halted := true }
  | .fault why => { regs := regs, mem := mem, pc := s.pc, trace := ⟨"fault:" ++ why, []⟩ :: trace, halted := true }

/-- one step: *read the operands → register-agnostic `exec` → write back* -/
def step (sem : Sem V) (env : Env V) (P : List (Instr R V)) (s : St R V) : St R V :=
  if s.halted then s else
  match P[s.pc]? with
  | none => { s with halted := true }
  | some i =>
    let vals := i.args.map (Opnd.eval s.regs)
    applyOut s i.dst (exec sem env i.kind vals (s.regs Special.sp) s.pc s.mem s.trace)

def run (sem : Sem V) (env : Env V) (P : List (Instr R V)) : Nat → St R V → St R V
  | 0, s => s
  | n + 1, s => run sem env P n (step sem env P s)

end
end PV.IC10

import PV.IC10.Machine
/-
The source dialect — trusted specification (DESIGN §2): abstract syntax of the supported Python
subset *after* static resolution of device / structure expressions to primitive reads and writes, and its
reference semantics: Python control flow and scoping, arithmetic by the same `Sem V` the machine uses.

The harness's program generator produces this AST and prints it as dialect Python for the transpiler.
-/
namespace PV.Src
open PV.IC10

inductive Expr (V : Type) where
  | num (v : V)
  | gvar (n : String)
  | lvar (n : String)
  /-- `op` is the name of the chip's ALU operation that defines the operator (`+` ↦ "add", `<` ↦ "slt", `and` ↦ "and", …) -/
  | bin (op : String) (a b : Expr V)
  | un (op : String) (a : Expr V)          -- "neg" | "not" (logical, seqz) | any unary ALU op
  | ifexp (c a b : Expr V)
  | read (q : String) (args : List (Expr V))
  | sget (a : Expr V)                       -- own stack `stack[a]`
  | prim (op : String) (args : List (Expr V))   -- intrinsic / math function as ALU operation
  | index (vals : List (Expr V)) (i : Expr V)   -- constant list with dynamic index
  | call (f : String) (args : List (Expr V))
  deriving Repr

inductive Stmt (V : Type) where
  | gassign (n : String) (e : Expr V)
  | lassign (n : String) (e : Expr V)
  | write (q : String) (args : List (Expr V))
  | sput (a v : Expr V)
  | ite (c : Expr V) (t e : List (Stmt V))
  | while (c : Expr V) (body : List (Stmt V))
  | forRange (isGlobal : Bool) (x : String) (start stop step : Expr V) (body : List (Stmt V))
  | forList (isGlobal : Bool) (x : String) (vals : List (Expr V)) (body : List (Stmt V))
  | brk | cont
  | ret (e : Option (Expr V))
  | expr (e : Expr V)
  | yield
  | sleep (e : Expr V)
  | hcf
  | push (e : Expr V)
  | pass
  deriving Repr

structure Func (V : Type) where
  name : String
  params : List String
  body : List (Stmt V)
  deriving Repr

structure Program (V : Type) where
  funcs : List (Func V)
  main : List (Stmt V)
  deriving Repr

/-! ### semantics -/

abbrev Store (V : Type) := List (String × V)

def Store.get {V : Type} (s : Store V) (n : String) : Option V := (s.find? (·.1 == n)).map (·.2)
def Store.set {V : Type} (s : Store V) (n : String) (v : V) : Store V :=
  if s.any (·.1 == n) then s.map (fun p => if p.1 == n then (n, v) else p) else (n, v) :: s

structure State (V : Type) where
  globals : Store V
  mem : Nat → V
  sp : Nat
  trace : List (Eff V)

inductive Signal (V : Type) where
  | normal
  | brk
  | cont
  | ret (v : Option V)

inductive Err where
  | fuel            -- ran out of fuel (non-terminating or long program): the trace so far is a prefix
  | unbound (n : String)
  | fault (why : String)   -- the reference semantics has no answer (e.g. bad stack address): program outside the compared domain
  | halt            -- hcf executed
  deriving Repr

/-- result of running something: the state reached, and either a value or why it stopped -/
abbrev Res (V α : Type) := State V × Except Err α

section
variable {V : Type} (sem : Sem V) (env : Env V) (P : Program V)

def truthy (v : V) : Bool := sem.truthy v

mutual
def evalExpr (fuel : Nat) (loc : Store V) (st : State V) : Expr V → Res V V
  | e => match fuel with
    | 0 => (st, .error .fuel)
    | fuel + 1 =>
      match e with
      | .num v => (st, .ok v)
      | .gvar n => match st.globals.get n with
        | some v => (st, .ok v)
        | none => (st, .error (.unbound n))
      | .lvar n => match loc.get n with
        | some v => (st, .ok v)
        | none => (st, .error (.unbound n))
      | .bin op a b =>
        match evalExpr fuel loc st a with
        | (st, .ok va) => match evalExpr fuel loc st b with
          | (st, .ok vb) => (st, .ok (sem.alu op [va, vb]))
          | (st, .error e) => (st, .error e)
        | (st, .error e) => (st, .error e)
      | .un op a =>
        match evalExpr fuel loc st a with
        | (st, .ok va) =>
          (st, .ok (if op == "neg" then sem.alu "sub" [sem.ofNat 0, va] else if op == "not" then sem.alu "seqz" [va] else sem.alu op [va]))
        | (st, .error e) => (st, .error e)
      | .ifexp c a b =>
        -- Python: only the chosen branch is evaluated
        match evalExpr fuel loc st c with
        | (st, .ok vc) => if truthy sem vc then evalExpr fuel loc st a else evalExpr fuel loc st b
        | (st, .error e) => (st, .error e)
      | .read q args =>
        match evalArgs fuel loc st args with
        | (st, .ok vs) => (st, .ok (env st.trace q vs))
        | (st, .error e) => (st, .error e)
      | .sget a =>
        match evalExpr fuel loc st a with
        | (st, .ok va) => match sem.toAddr va with
          | some n => if n < stackSize then (st, .ok (st.mem n)) else (st, .error (.fault "stack-address"))
          | none => (st, .error (.fault "stack-address"))
        | (st, .error e) => (st, .error e)
      | .prim op args =>
        match evalArgs fuel loc st args with
        | (st, .ok vs) => (st, .ok (sem.alu op vs))
        | (st, .error e) => (st, .error e)
      | .index vals i =>
        match evalExpr fuel loc st i with
        | (st, .ok vi) => match sem.toAddr vi with
          | some n => match vals[n]? with
            | some ve => evalExpr fuel loc st ve
            | none => (st, .error (.fault "index-out-of-range"))
          | none => (st, .error (.fault "index-out-of-range"))
        | (st, .error e) => (st, .error e)
      | .call f args =>
        match evalArgs fuel loc st args with
        | (st, .ok vs) =>
          match P.funcs.find? (·.name == f) with
          | none => (st, .error (.fault ("no function " ++ f)))
          | some fn =>
            let loc' : Store V := fn.params.zip vs
            match execBlock fuel loc' st fn.body with
            | (st, .ok (_, .ret (some v))) => (st, .ok v)
            | (st, .ok (_, _)) => (st, .error (.fault "function returned no value"))
            | (st, .error e) => (st, .error e)
        | (st, .error e) => (st, .error e)

def evalArgs (fuel : Nat) (loc : Store V) (st : State V) : List (Expr V) → Res V (List V)
  | [] => (st, .ok [])
  | e :: es =>
    match fuel with
    | 0 => (st, .error .fuel)
    | fuel + 1 =>
      match evalExpr fuel loc st e with
      | (st, .ok v) => match evalArgs fuel loc st es with
        | (st, .ok vs) => (st, .ok (v :: vs))
        | (st, .error e) => (st, .error e)
      | (st, .error e) => (st, .error e)

/-- run a call used as a statement (its value, if any, is dropped) -/
def execCall (fuel : Nat) (loc : Store V) (st : State V) (f : String) (args : List (Expr V)) : Res V Unit :=
  match fuel with
  | 0 => (st, .error .fuel)
  | fuel + 1 =>
    match evalArgs fuel loc st args with
    | (st, .ok vs) =>
      match P.funcs.find? (·.name == f) with
      | none => (st, .error (.fault ("no function " ++ f)))
      | some fn =>
        match execBlock fuel (fn.params.zip vs) st fn.body with
        | (st, .ok _) => (st, .ok ())
        | (st, .error e) => (st, .error e)
    | (st, .error e) => (st, .error e)

def execStmt (fuel : Nat) (loc : Store V) (st : State V) : Stmt V → Res V (Store V × Signal V)
  | s => match fuel with
    | 0 => (st, .error .fuel)
    | fuel + 1 =>
      match s with
      | .gassign n e => match evalExpr fuel loc st e with
        | (st, .ok v) => ({ st with globals := st.globals.set n v }, .ok (loc, .normal))
        | (st, .error e) => (st, .error e)
      | .lassign n e => match evalExpr fuel loc st e with
        | (st, .ok v) => (st, .ok (loc.set n v, .normal))
        | (st, .error e) => (st, .error e)
      | .write q args => match evalArgs fuel loc st args with
        | (st, .ok vs) => ({ st with trace := ⟨q, vs⟩ :: st.trace }, .ok (loc, .normal))
        | (st, .error e) => (st, .error e)
      | .sput a v => match evalExpr fuel loc st a with
        | (st, .ok va) => match evalExpr fuel loc st v with
          | (st, .ok vv) => match sem.toAddr va with
            | some n => if n < stackSize then ({ st with mem := updMem st.mem n vv }, .ok (loc, .normal))
                        else (st, .error (.fault "stack-address"))
            | none => (st, .error (.fault "stack-address"))
          | (st, .error e) => (st, .error e)
        | (st, .error e) => (st, .error e)
      | .ite c t e => match evalExpr fuel loc st c with
        | (st, .ok vc) => if truthy sem vc then execBlock fuel loc st t else execBlock fuel loc st e
        | (st, .error e) => (st, .error e)
      | .while c body => execWhile fuel loc st c body
      | .forRange g x start stop step body =>
        match evalExpr fuel loc st start with
        | (st, .ok v0) => match evalExpr fuel loc st stop with
          | (st, .ok v1) => match evalExpr fuel loc st step with
            | (st, .ok v2) => execFor fuel loc st g x v0 v1 v2 body
            | (st, .error e) => (st, .error e)
          | (st, .error e) => (st, .error e)
        | (st, .error e) => (st, .error e)
      | .forList g x vals body => execForList fuel loc st g x vals body
      | .brk => (st, .ok (loc, .brk))
      | .cont => (st, .ok (loc, .cont))
      | .ret none => (st, .ok (loc, .ret none))
      | .ret (some e) => match evalExpr fuel loc st e with
        | (st, .ok v) => (st, .ok (loc, .ret (some v)))
        | (st, .error e) => (st, .error e)
      | .expr (.call f args) => match execCall fuel loc st f args with
        | (st, .ok _) => (st, .ok (loc, .normal))
        | (st, .error e) => (st, .error e)
      | .expr e => match evalExpr fuel loc st e with
        | (st, .ok _) => (st, .ok (loc, .normal))
        | (st, .error e) => (st, .error e)
      | .yield => ({ st with trace := ⟨"yield", []⟩ :: st.trace }, .ok (loc, .normal))
      | .sleep e => match evalExpr fuel loc st e with
        | (st, .ok v) => ({ st with trace := ⟨"sleep", [v]⟩ :: st.trace }, .ok (loc, .normal))
        | (st, .error e) => (st, .error e)
      | .hcf => ({ st with trace := ⟨"hcf", []⟩ :: st.trace }, .error .halt)
      | .push e => match evalExpr fuel loc st e with
        | (st, .ok v) =>
          if st.sp < stackSize then ({ st with mem := updMem st.mem st.sp v, sp := st.sp + 1 }, .ok (loc, .normal))
          else (st, .error (.fault "stack-overflow"))
        | (st, .error e) => (st, .error e)
      | .pass => (st, .ok (loc, .normal))

def execBlock (fuel : Nat) (loc : Store V) (st : State V) : List (Stmt V) → Res V (Store V × Signal V)
  | [] => (st, .ok (loc, .normal))
  | s :: ss =>
    match fuel with
    | 0 => (st, .error .fuel)
    | fuel + 1 =>
      match execStmt fuel loc st s with
      | (st, .ok (loc, .normal)) => execBlock fuel loc st ss
      | r => r

def execWhile (fuel : Nat) (loc : Store V) (st : State V) (c : Expr V) (body : List (Stmt V)) :
    Res V (Store V × Signal V) :=
  match fuel with
  | 0 => (st, .error .fuel)
  | fuel + 1 =>
    match evalExpr fuel loc st c with
    | (st, .ok vc) =>
      if truthy sem vc then
        match execBlock fuel loc st body with
        | (st, .ok (loc, .normal)) => execWhile fuel loc st c body
        | (st, .ok (loc, .cont)) => execWhile fuel loc st c body
        | (st, .ok (loc, .brk)) => (st, .ok (loc, .normal))
        | r => r
      else (st, .ok (loc, .normal))
    | (st, .error e) => (st, .error e)

/-- `for x in range(v0, v1, v2)`: bounds are evaluated once; `x` is assigned at the start of each iteration -/
def execFor (fuel : Nat) (loc : Store V) (st : State V) (g : Bool) (x : String) (cur stop step : V)
    (body : List (Stmt V)) : Res V (Store V × Signal V) :=
  match fuel with
  | 0 => (st, .error .fuel)
  | fuel + 1 =>
    let more := if sem.cond "ge" [step, sem.ofNat 0] then sem.cond "lt" [cur, stop] else sem.cond "gt" [cur, stop]
    if more then
      let (loc, st) := if g then (loc, { st with globals := st.globals.set x cur }) else (loc.set x cur, st)
      let next := sem.alu "add" [cur, step]
      match execBlock fuel loc st body with
      | (st, .ok (loc, .normal)) => execFor fuel loc st g x next stop step body
      | (st, .ok (loc, .cont)) => execFor fuel loc st g x next stop step body
      | (st, .ok (loc, .brk)) => (st, .ok (loc, .normal))
      | r => r
    else (st, .ok (loc, .normal))

def execForList (fuel : Nat) (loc : Store V) (st : State V) (g : Bool) (x : String) :
    List (Expr V) → List (Stmt V) → Res V (Store V × Signal V)
  | [], _ => (st, .ok (loc, .normal))
  | v :: vs, body =>
    match fuel with
    | 0 => (st, .error .fuel)
    | fuel + 1 =>
      match evalExpr fuel loc st v with
      | (st, .ok cur) =>
        let (loc, st) := if g then (loc, { st with globals := st.globals.set x cur }) else (loc.set x cur, st)
        match execBlock fuel loc st body with
        | (st, .ok (loc, .normal)) => execForList fuel loc st g x vs body
        | (st, .ok (loc, .cont)) => execForList fuel loc st g x vs body
        | (st, .ok (loc, .brk)) => (st, .ok (loc, .normal))
        | r => r
      | (st, .error e) => (st, .error e)
end

/-- run the whole program from the initial state -/
def runProgram (fuel : Nat) (zero : V) : State V × Except Err Unit :=
  let st0 : State V := { globals := [], mem := fun _ => zero, sp := 0, trace := [] }
  match execBlock sem env P fuel [] st0 P.main with
  | (st, .ok _) => (st, .ok ())
  | (st, .error e) => (st, .error e)

end
end PV.Src

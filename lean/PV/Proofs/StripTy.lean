import PV.Model.StripTy
import PV.Proofs.Strip
/-!
Label removal preserves behaviour — programs with calls.  `SimT T s s'`: the labelled program's state `s` and the label-free
program's state `s'` agree on every register and stack cell that `T` does not mark and hold the line numbers `a` / `rho L a`
in the marked ones.
The untyped simulation of `Proofs/Strip.lean` is NOT the instance `T = Ty.none` of this one: `tyStep` refuses lines that
`simple` accepts (`push` with other than one operand, `pop` / `peek` / `get` with destination `sp`), and needs `OkT.ofNat`.
The other way round it is used: `exec_rel_untyped` is `exec_renum`.
-/
namespace PV.Strip
open PV.IC10

section
variable {R V : Type} [DecidableEq R] [Special R]
variable (sem : Sem V) (L : Nat → Bool)

/-- equal values, or the same line number in the two numberings -/
def VR (b : Bool) (v v' : V) : Prop :=
  if b then ∃ a, v = sem.ofNat a ∧ v' = sem.ofNat (rho L a) else v' = v

theorem VR_false {sem : Sem V} {L : Nat → Bool} {v v' : V} : VR sem L false v v' ↔ v' = v := by simp [VR]
theorem VR_true {sem : Sem V} {L : Nat → Bool} {v v' : V} : VR sem L true v v' ↔ ∃ a, v = sem.ofNat a ∧ v' = sem.ofNat (rho L a) := by simp [VR]

/-- `sp` is used as an address by both programs, so it must hold the same number in both: it is never marked (`sp`), and
    `tyStep` refuses to load a destination `sp` from the stack -/
structure SimT (T : Ty R) (s s' : St R V) : Prop where
  regs : ∀ r, VR sem L (T.reg r) (s.regs r) (s'.regs r)
  mem : ∀ n, VR sem L (T.mem n) (s.mem n) (s'.mem n)
  trace : s'.trace = s.trace
  halted : s'.halted = s.halted
  pc : s'.pc = rho L s.pc
  sp : T.reg Special.sp = false

omit [DecidableEq R] in
theorem SimT.start {s : St R V} (h : s.pc = 0) : SimT sem L Ty.none s s :=
  ⟨fun _ => VR_false.mpr rfl, fun _ => VR_false.mpr rfl, rfl, rfl, by rw [h]; rfl, rfl⟩

/-- outcomes of the same instruction in the two programs; `bd` / `bm`: is the value for the destination / for the stack cell
    a line number (related as `VR true`) or an ordinary value (equal) -/
structure OutRel (bd bm : Bool) (o o' : Out V) : Prop where
  dst : (o.dst = none ∧ o'.dst = none) ∨ (∃ v v', o.dst = some v ∧ o'.dst = some v' ∧ VR sem L bd v v')
  sp : o'.sp = o.sp
  ra : (o.ra = none ∧ o'.ra = none) ∨ (∃ a, o.ra = some (sem.ofNat a) ∧ o'.ra = some (sem.ofNat (rho L a)))
  mem : (o.mem = none ∧ o'.mem = none) ∨ (∃ n v v', o.mem = some (n, v) ∧ o'.mem = some (n, v') ∧ VR sem L bm v v')
  effs : o'.effs = o.effs
  next : o'.next = mapNext L o.next

/-- the typing after an outcome -/
def tyAfter (T : Ty R) (dst : Option R) (bd bm : Bool) (o : Out V) : Ty R :=
  let T1 := if o.ra.isSome then T.setReg Special.ra true else T
  let T2 := match dst, o.dst with
    | some d, some _ => T1.setReg d bd
    | _, _ => T1
  match o.mem with
  | some (n, _) => T2.setMem n bm
  | none => T2

variable {sem} {L}

omit [DecidableEq R] in
theorem SimT.spv {T : Ty R} {s s' : St R V} (h : SimT sem L T s s') : s'.regs Special.sp = s.regs Special.sp :=
  VR_false.mp (h.sp ▸ h.regs Special.sp)

omit [Special R] in
theorem updOpt_VR {T : Ty R} {f f' : R → V} (hf : ∀ x, VR sem L (T.reg x) (f x) (f' x)) (r : R) {b : Bool} {ov ov' : Option V}
    (hov : (ov = none ∧ ov' = none) ∨ ∃ v v', ov = some v ∧ ov' = some v' ∧ VR sem L b v v') (x : R) :
    VR sem L ((if ov.isSome then T.setReg r b else T).reg x) (updOpt f r ov x) (updOpt f' r ov' x) := by
  rcases hov with ⟨rfl, rfl⟩ | ⟨v, v', rfl, rfl, hv⟩
  · exact hf x
  · by_cases hx : x = r
    · subst hx; simpa [Ty.setReg] using hv
    · simpa [Ty.setReg, hx] using hf x

theorem writeBack_VR {T : Ty R} {f f' : R → V} (hT : T.reg Special.sp = false)
    (hf : ∀ r, VR sem L (T.reg r) (f r) (f' r)) (dst : Option R) {bd bm : Bool} {o o' : Out V} (h : OutRel sem L bd bm o o') :
    ∀ r, VR sem L ((tyAfter T dst bd bm o).reg r) (writeBack f dst o r) (writeBack f' dst o' r) := by
  obtain ⟨hd, hs, hr, -, -, -⟩ := h
  have h1 : ∀ x, VR sem L (T.reg x) (updOpt f Special.sp o.sp x) (updOpt f' Special.sp o'.sp x) := by
    intro x
    have := updOpt_VR hf Special.sp (b := false) (ov := o.sp) (ov' := o'.sp) (by rw [hs]; cases o.sp <;> simp [VR]) x
    have e : (if o.sp.isSome then T.setReg Special.sp false else T).reg x = T.reg x := by
      split
      · by_cases hx : x = Special.sp <;> simp [Ty.setReg, hx, hT]
      · rfl
    rwa [e] at this
  have h2 := updOpt_VR h1 Special.ra (b := true) (hr.imp id fun ⟨a, e, e'⟩ => ⟨_, _, e, e', VR_true.mpr ⟨a, rfl, rfl⟩⟩)
  have hreg : (tyAfter T dst bd bm o).reg = (match dst, o.dst with
      | some d, some _ => (if o.ra.isSome then T.setReg Special.ra true else T).setReg d bd
      | _, _ => (if o.ra.isSome then T.setReg Special.ra true else T)).reg := by
    unfold tyAfter; cases o.mem <;> rfl
  rw [hreg]
  cases dst with
  | none => exact h2
  | some d =>
    rw [writeBack_some, writeBack_some]
    have h3 := updOpt_VR h2 d hd
    cases hod : o.dst <;> simpa [hod] using h3

theorem applyOut_simT {T : Ty R} {s s' : St R V} (h : SimT sem L T s s') (hl : L s.pc = false)
    (dst : Option R) {bd bm : Bool} {o o' : Out V} (ho : OutRel sem L bd bm o o')
    (hspd : (tyAfter T dst bd bm o).reg Special.sp = false) :
    SimT sem L (tyAfter T dst bd bm o) (applyOut s dst o) (applyOut s' dst o') := by
  have hmem : ∀ n, VR sem L ((tyAfter T dst bd bm o).mem n) (updMemOpt s.mem o.mem n) (updMemOpt s'.mem o'.mem n) := by
    intro n
    have hty : (tyAfter T dst bd bm o).mem = (match o.mem with | some (a, _) => T.setMem a bm | none => T).mem := by
      unfold tyAfter
      cases dst <;> cases o.dst <;> cases o.ra <;> cases o.mem <;> rfl
    rw [hty]
    rcases ho.mem with ⟨hm1, hm2⟩ | ⟨a, v, v', hm1, hm2, hv⟩
    · rw [hm1, hm2]; exact h.mem n
    · rw [hm1, hm2]
      by_cases hn : n = a
      · subst hn; simpa [Ty.setMem] using hv
      · simpa [Ty.setMem, hn] using h.mem n
  rw [applyOut_eq, applyOut_eq, ho.next, ho.effs, h.trace, h.pc]
  exact ⟨writeBack_VR h.sp h.regs dst ho, hmem,
    congrArg (· ++ (o.effs ++ s.trace)) (mapNext_faultEff o.next), mapNext_stops _, mapNext_pcAfter hl _, hspd⟩

section instr
variable {lit : Nat → V} {env : Env V} {T : Ty R} {s s' : St R V} {f f' : R → V}

omit [DecidableEq R] [Special R] in
theorem opnd_VR (hf : ∀ r, VR sem L (T.reg r) (f r) (f' r)) (o : Opnd R V) : VR sem L (opTy T o) (o.eval f) (o.eval f') := by
  cases o with
  | reg r => exact hf r
  | num v => simp [opTy, Opnd.eval, VR]

omit [DecidableEq R] [Special R] in
theorem opnd_untyped (hf : ∀ r, VR sem L (T.reg r) (f r) (f' r)) {o : Opnd R V} (h : opTy T o = false) :
    o.eval f' = o.eval f :=
  VR_false.mp (h ▸ opnd_VR hf o)

omit [DecidableEq R] [Special R] in
theorem args_untyped (hf : ∀ r, VR sem L (T.reg r) (f r) (f' r)) {args : List (Opnd R V)} (h : useOk T args = true) :
    args.map (Opnd.eval f') = args.map (Opnd.eval f) :=
  List.map_congr_left fun o ho => opnd_untyped hf (by simpa using List.all_eq_true.1 h o ho)

omit [DecidableEq R] [Special R] in
/-- renumbering replaces a literal by a literal -/
theorem useOk_renumLast (T : Ty R) : ∀ (args : List (Opnd R V)), useOk T (renumLast sem lit L args) = useOk T args
  | [] => rfl
  | [.reg _] => rfl
  | [.num v] => by simp only [renumLast, renumOpnd]; cases sem.toAddr v <;> rfl
  | o :: o2 :: rest => by
    have := useOk_renumLast T (o2 :: rest)
    simp only [useOk, renumLast, List.all_cons] at this ⊢
    rw [this]

theorem tyAfter_plain (T : Ty R) (dst : Option R) {bd bm : Bool} {o : Out V} (hra : o.ra = none) (hm : o.mem = none) (hd : o.dst = none) :
    tyAfter T dst bd bm o = T := by
  unfold tyAfter
  rw [hra, hm, hd]
  cases dst <;> rfl

theorem OutRel_mapOut (o : Out V) (hra : o.ra = none) : OutRel sem L false false o (mapOut L o) := by
  refine ⟨?_, rfl, .inl ⟨hra, hra⟩, ?_, rfl, rfl⟩
  · cases hd : o.dst with
    | none => exact .inl ⟨rfl, hd⟩
    | some v => exact .inr ⟨v, v, rfl, hd, VR_false.mpr rfl⟩
  · cases hm : o.mem with
    | none => exact .inl ⟨rfl, hm⟩
    | some p => exact .inr ⟨p.1, p.2, p.2, rfl, hm, VR_false.mpr rfl⟩

theorem setDst_sp (hT : T.reg Special.sp = false) {d : Option R} {b : Bool} (hd : b = false ∨ d ≠ some Special.sp) :
    (T.setDst d b).reg Special.sp = false := by
  cases d with
  | none => exact hT
  | some d' =>
    rcases hd with rfl | hd
    · simp only [Ty.setDst, Ty.setReg]; split <;> simp [hT]
    · have : Special.sp ≠ d' := fun e => hd (e ▸ rfl)
      simp [Ty.setDst, Ty.setReg, this, hT]

theorem rel_fault (hT : T.reg Special.sp = false) (dst : Option R) {w : String} :
    ∃ bd bm, OutRel sem L bd bm ({ next := .fault w } : Out V) { next := .fault w } ∧
      tyAfter T dst bd bm ({ next := .fault w } : Out V) = T ∧ T.reg Special.sp = false :=
  ⟨false, false, OutRel_mapOut _ rfl, tyAfter_plain T dst rfl rfl rfl, hT⟩

/-- a value written to cell `n` keeps its mark -/
theorem rel_store (h : SimT sem L T s s') (d : Option R) (n : Nat) (o : Opnd R V) {spo : Option V} :
    ∃ bd bm, OutRel sem L bd bm ({ mem := some (n, o.eval s.regs), sp := spo } : Out V) { mem := some (n, o.eval s'.regs), sp := spo } ∧
      tyAfter T d bd bm ({ mem := some (n, o.eval s.regs), sp := spo } : Out V) = T.setMem n (opTy T o) ∧
      (T.setMem n (opTy T o)).reg Special.sp = false :=
  ⟨false, opTy T o, ⟨.inl ⟨rfl, rfl⟩, rfl, .inl ⟨rfl, rfl⟩, .inr ⟨n, _, _, rfl, rfl, opnd_VR h.regs o⟩, rfl, rfl⟩,
    by unfold tyAfter; cases d <;> rfl, h.sp⟩

/-- the destination takes the mark of the cell `n` it is loaded from -/
theorem rel_load (h : SimT sem L T s s') {d : Option R} (hd : d ≠ some Special.sp) (n : Nat) {spo : Option V} :
    ∃ bd bm, OutRel sem L bd bm ({ dst := some (s.mem n), sp := spo } : Out V) { dst := some (s'.mem n), sp := spo } ∧
      tyAfter T d bd bm ({ dst := some (s.mem n), sp := spo } : Out V) = T.setDst d (T.mem n) ∧
      (T.setDst d (T.mem n)).reg Special.sp = false :=
  ⟨T.mem n, false, ⟨.inr ⟨_, _, rfl, rfl, h.mem n⟩, rfl, .inl ⟨rfl, rfl⟩, .inl ⟨rfl, rfl⟩, rfl, rfl⟩,
    by unfold tyAfter; cases d <;> rfl, setDst_sp h.sp (.inr hd)⟩

/-- the common tail of the `pop` / `peek` / `get` arms of `tyStep` -/
theorem tyStep_dst {d : Option R} {x : R → Option (Ty R)} {T' : Ty R}
    (ht : (match d with
      | some d => if d = Special.sp then none else x d
      | none => some T) = some T') :
    d ≠ some Special.sp ∧ (match (generalizing := false) d with
      | some d => x d
      | none => some T) = some T' := by
  cases d with
  | none => exact ⟨nofun, ht⟩
  | some d' =>
    by_cases hd : d' = Special.sp
    · simp [hd] at ht
    · exact ⟨fun e => hd (Option.some.inj e), by simpa [hd] using ht⟩

theorem rel_fault_dst (hT : T.reg Special.sp = false) {d : Option R} {T' : Ty R} {w : String}
    (hx : (match d with
      | some _ => some T
      | none => some T) = some T') :
    ∃ bd bm, OutRel sem L bd bm ({ next := .fault w } : Out V) { next := .fault w } ∧
      tyAfter T d bd bm ({ next := .fault w } : Out V) = T' ∧ T'.reg Special.sp = false := by
  obtain rfl : T = T' := by cases d <;> exact Option.some.inj hx
  exact rel_fault hT d

theorem exec_rel_untyped (hlit : ∀ n, sem.toAddr (lit n) = some n) (h : SimT sem L T s s') (i : Instr R V)
    (hu : useOk T i.args = true) (hs : simple sem i = true) (hm : i.kind ≠ .pop ∧ i.kind ≠ .peek ∧ i.kind ≠ .getdb) :
    OutRel sem L false false (exec sem env i.kind (i.args.map (Opnd.eval s.regs)) (s.regs Special.sp) s.pc s.mem s.trace)
      (exec sem env i.kind ((renum sem lit L i).args.map (Opnd.eval s'.regs)) (s'.regs Special.sp) s'.pc s'.mem s'.trace) := by
  have hu' : useOk T (renum sem lit L i).args = true := by
    unfold renum; split
    · exact (useOk_renumLast T i.args).trans hu
    · exact hu
  have := exec_renum sem lit L env hlit i hs s.regs (s.regs Special.sp) s.pc s'.pc s.mem s.trace
  rw [renum_kind] at this
  rw [args_untyped h.regs hu', h.spv, h.trace, exec_mem_irrel (mem := s.mem) hm s'.mem, this]
  refine OutRel_mapOut _ ?_
  rw [exec_ra, if_neg]
  rintro hk
  simp [simple, hk, isExcluded] at hs

end instr

variable (sem) (L)

section instr
variable (lit : Nat → V) (env : Env V)

theorem exec_rel (hsp : (Special.sp : R) ≠ Special.ra) (hlit : ∀ n, sem.toAddr (lit n) = some n) (hof : ∀ n, sem.toAddr (sem.ofNat n) = some n)
    (T T' : Ty R) (s s' : St R V) (h : SimT sem L T s s') (hl : L s.pc = false) (i : Instr R V)
    (ht : tyStep sem T s i = some T') :
    ∃ bd bm, OutRel sem L bd bm (exec sem env i.kind (i.args.map (Opnd.eval s.regs)) (s.regs Special.sp) s.pc s.mem s.trace)
        (exec sem env i.kind ((renum sem lit L i).args.map (Opnd.eval s'.regs)) (s'.regs Special.sp) s'.pc s'.mem s'.trace) ∧
      tyAfter T i.dst bd bm (exec sem env i.kind (i.args.map (Opnd.eval s.regs)) (s.regs Special.sp) s.pc s.mem s.trace) = T' ∧
      T'.reg Special.sp = false := by
  have hspv := h.spv
  have untyped := exec_rel_untyped (env := env) hlit h
  obtain ⟨k, d, args⟩ := i
  -- in the `match args, ht with` below only the operand shapes `tyStep` accepts are listed: for the others `ht` is
  -- `none = some T'`, which the match compiler refutes
  cases k <;> simp only [tyStep, h.sp, Bool.false_eq_true, if_false] at ht
  case alu | load =>
    obtain ⟨hu, rfl⟩ : useOk T args = true ∧ T.setDst d false = T' := by simpa using ht
    refine ⟨false, false, untyped _ hu (simple_plain rfl rfl) (by simp), ?_, setDst_sp h.sp (.inl rfl)⟩
    cases d <;> rfl
  case store | yield | sleep | hcf | nop | bad =>
    obtain ⟨hu, rfl⟩ : useOk T args = true ∧ T = T' := by simpa using ht
    exact ⟨false, false, untyped _ hu (simple_plain rfl rfl) (by simp), tyAfter_plain T d rfl rfl rfl, h.sp⟩
  case br | brq =>
    obtain ⟨⟨hu, hll⟩, rfl⟩ : (useOk T args = true ∧ lastIsLine sem args = true) ∧ T = T' := by simpa using ht
    refine ⟨false, false, untyped _ hu (simple_br (by simp) hll) (by simp), ?_, h.sp⟩
    simp only [exec_br, exec_brq]
    split <;> exact tyAfter_plain T d rfl rfl rfl
  case brr => cases ht
  case jmp =>
    match args, ht with
    | [.num v], ht =>
      obtain ⟨hv, rfl⟩ : (sem.toAddr v).isSome = true ∧ T = T' := by simpa using ht
      exact ⟨false, false, untyped _ rfl (simple_jmp hv) (by simp), tyAfter_plain T d rfl rfl rfl, h.sp⟩
    | [.reg r], ht =>
      -- the return: `r` holds the line `a` here and `rho L a` there
      obtain ⟨hr, rfl⟩ : T.reg r = true ∧ T = T' := by simpa using ht
      obtain ⟨a, ha, ha'⟩ := VR_true.mp (hr ▸ h.regs r)
      simp only [renum, isDirect, if_true, renumLast, renumOpnd, exec_jmp, List.map_cons, List.map_nil, Opnd.eval, List.headD_cons, ha, ha']
      exact ⟨false, false, ⟨.inl ⟨rfl, rfl⟩, rfl, .inl ⟨rfl, rfl⟩, .inl ⟨rfl, rfl⟩, rfl, by simp [target, hof, mapNext]⟩,
        tyAfter_plain T d rfl rfl rfl, h.sp⟩
  case jal =>
    match args, ht with
    | [.num v], ht =>
      -- the call: `ra` receives the next line in either numbering; this line is kept, so they correspond
      obtain ⟨hv, rfl⟩ : (sem.toAddr v).isSome = true ∧ T.setReg Special.ra true = T' := by simpa using ht
      obtain ⟨t, hta⟩ := Option.isSome_iff_exists.mp hv
      simp only [renum, isDirect, if_true, renumLast, renumOpnd, hta, exec_jal, List.map_cons, List.map_nil, Opnd.eval, List.headD_cons]
      refine ⟨false, false, ⟨.inl ⟨rfl, rfl⟩, rfl, .inr ⟨s.pc + 1, rfl, ?_⟩, .inl ⟨rfl, rfl⟩, rfl, by simp [target, hta, hlit, mapNext]⟩, ?_, ?_⟩
      · rw [h.pc, rho_succ_kept hl]
      · unfold tyAfter; cases d <;> rfl
      · simp [Ty.setReg, hsp, h.sp]
  case push =>
    match args, ht with
    | [o], ht =>
      simp only [renum, isDirect, Bool.false_eq_true, if_false, hspv, List.map_cons, List.map_nil, exec_push, List.headD_cons]
      revert ht
      cases sem.toAddr (s.regs Special.sp) with
      | none => rintro ⟨⟩; exact rel_fault h.sp d
      | some a =>
        by_cases ha : a < stackSize
        · simp only [ha, if_true]
          rintro ⟨⟩; exact rel_store h d a o
        · simp only [ha, if_false]
          rintro ⟨⟩; exact rel_fault h.sp d
  case pop | peek =>
    obtain ⟨hd, hx⟩ := tyStep_dst ht
    simp only [renum, isDirect, Bool.false_eq_true, if_false, hspv, exec_pop, exec_peek]
    revert hx
    rcases sem.toAddr (s.regs Special.sp) with _ | _ | a
    · exact rel_fault_dst h.sp
    · exact rel_fault_dst h.sp
    · by_cases ha : a < stackSize
      · simp only [ha, if_true]
        intro hx
        obtain rfl : T.setDst d (T.mem a) = T' := by cases d <;> exact Option.some.inj hx
        exact rel_load h hd a
      · simp only [ha, if_false]
        exact rel_fault_dst h.sp
  case poke =>
    simp only [renum, isDirect, Bool.false_eq_true, if_false]
    match args, ht with
    | [ao, vo], ht =>
      -- the address is unmarked, so both programs write the same cell
      cases hao : opTy T ao with
      | true => simp [hao] at ht
      | false =>
        simp only [hao, Bool.false_eq_true, if_false] at ht
        simp only [List.map_cons, List.map_nil, opnd_untyped h.regs hao, exec_poke]
        revert ht
        cases sem.toAddr (ao.eval s.regs) with
        | none => rintro ⟨⟩; exact rel_fault h.sp d
        | some n =>
          by_cases hn : n < stackSize
          · simp only [hn, if_true]
            rintro ⟨⟩; exact rel_store h d n vo
          · simp only [hn, if_false]
            rintro ⟨⟩; exact rel_fault h.sp d
    | [], ht | [_], ht | _ :: _ :: _ :: _, ht =>
      obtain ⟨-, rfl⟩ : _ ∧ T = T' := by simpa using ht
      exact rel_fault h.sp d
  case getdb =>
    simp only [renum, isDirect, Bool.false_eq_true, if_false]
    match args, ht with
    | [ao], ht =>
      cases hao : opTy T ao with
      | true => simp [hao] at ht
      | false =>
        simp only [hao, Bool.false_eq_true, if_false] at ht
        simp only [List.map_cons, List.map_nil, opnd_untyped h.regs hao, exec_getdb]
        obtain ⟨hd, hx⟩ := tyStep_dst ht
        revert hx
        cases sem.toAddr (ao.eval s.regs) with
        | none => exact rel_fault_dst h.sp
        | some n =>
          by_cases hn : n < stackSize
          · simp only [hn, if_true]
            intro hx
            obtain rfl : T.setDst d (T.mem n) = T' := by cases d <;> exact Option.some.inj hx
            exact rel_load h hd n
          · simp only [hn, if_false]
            exact rel_fault_dst h.sp
    | [], ht | _ :: _ :: _, ht =>
      obtain ⟨-, rfl⟩ : _ ∧ T = T' := by simpa using ht
      exact rel_fault h.sp d

end instr

section runs
variable (lit : Nat → V) (env : Env V) (P : List (Instr R V))

structure OkT : Prop where
  labels : ∀ i, L i = true → P[i]? = some ⟨.nop, none, []⟩
  lit : ∀ n, sem.toAddr (lit n) = some n
  ofNat : ∀ n, sem.toAddr (sem.ofNat n) = some n

variable {sem} {L} {lit} {env} {P} in
theorem step_label_typed (hok : OkT sem L lit P) {T : Ty R} {s s' : St R V} (h : SimT sem L T s s') (hh : s.halted = false)
    (hl : L s.pc = true) : SimT sem L T (step sem env P s) s' := by
  rw [step_nop hh (hok.labels s.pc hl) rfl]
  exact ⟨h.regs, h.mem, h.trace, h.halted, by rw [h.pc]; exact (rho_succ_lab hl).symm, h.sp⟩

theorem step_kept_typed (hsp : (Special.sp : R) ≠ Special.ra) (hok : OkT sem L lit P) (T T' : Ty R) (s s' : St R V)
    (h : SimT sem L T s s') (hh : s.halted = false) (hl : L s.pc = false) (i : Instr R V) (hi : P[s.pc]? = some i)
    (ht : tyStep sem T s i = some T') :
    SimT sem L T' (step sem env P s) (step sem env (strip sem lit L P) s') := by
  obtain ⟨bd, bm, hrel, rfl, hsp'⟩ := exec_rel sem L lit env hsp hok.lit hok.ofNat T T' s s' h hl i ht
  rw [step_eq hh hi,
    step_eq (h.halted.trans hh) (by rw [h.pc]; exact strip_get sem lit L P s.pc i hi hl), renum_dst, renum_kind]
  exact applyOut_simT h hl i.dst hrel hsp'

/-- **label removal preserves behaviour along every well-typed run** (programs with calls included): if the typing of the
    first `m` steps of the labelled program never fails, the label-free program reaches a related state in at most `m` steps —
    same effect trace, same halting, registers and stack equal except for line numbers held where the typing says -/
theorem strip_sim_typed (hsp : (Special.sp : R) ≠ Special.ra) (hok : OkT sem L lit P) :
    ∀ (m : Nat) (T T'' : Ty R) (s s' : St R V), SimT sem L T s s' → tyRun sem env P L m s T = some T'' →
      ∃ k, k ≤ m ∧ SimT sem L T'' (run sem env P m s) (run sem env (strip sem lit L P) k s') := by
  intro m
  induction m with
  | zero =>
    intro T T'' s s' h ht
    cases ht
    exact ⟨0, Nat.le_refl 0, h⟩
  | succ m ih =>
    intro T T'' s s' h ht
    unfold tyRun at ht
    cases hh : s.halted with
    | true =>
      obtain rfl : T = T'' := by simpa [hh] using ht
      rw [run_halted hh]
      exact ⟨0, Nat.zero_le _, h⟩
    | false =>
      cases hi : P[s.pc]? with
      | none =>
        -- off the end: both programs stop in their next step
        obtain rfl : T = T'' := by simpa [hh, hi] using ht
        refine ⟨1, by omega, ?_⟩
        rw [run_succ, step_none hh hi, run_halted rfl]
        show SimT sem L T _ (step sem env (strip sem lit L P) s')
        rw [step_none (h.halted.trans hh) (by rw [h.pc]; exact strip_get_none sem lit L hi)]
        exact ⟨h.regs, h.mem, h.trace, rfl, h.pc, h.sp⟩
      | some i =>
        cases hl : L s.pc with
        | true =>
          simp only [hh, hi, hl, Bool.false_eq_true, if_false, if_true] at ht
          obtain ⟨k, hk, hs⟩ := ih T T'' _ s' (step_label_typed hok h hh hl) ht
          exact ⟨k, by omega, hs⟩
        | false =>
          cases hts : tyStep sem T s i with
          | none => simp [hh, hi, hl, hts] at ht
          | some T' =>
            simp only [hh, hi, hl, hts, Bool.false_eq_true, if_false] at ht
            obtain ⟨k, hk, hs⟩ := ih T' T'' _ _ (step_kept_typed sem L lit env P hsp hok T T' s s' h hh hl i hi hts) ht
            exact ⟨k + 1, by omega, hs⟩

end runs

end
end PV.Strip

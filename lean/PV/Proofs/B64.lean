import PV.Base.B64
/-!
Base64 lemmas for C18. `a2b_b64encode`: the lenient decoder inverts the standard encoder.
`repad_encodeTail`: what `decode_data` rebuilds from the URL-safe, unpadded form is exactly the
standard encoding, so the share-link round trip is an instance of the first.
-/
namespace PV.B64

/-- The facts read off the alphabet table, in one evaluation.  `rw [String.toList_ofList]` unifies the literal with
    `String.ofList ?l`, which the kernel accepts as it stands; evaluating `String.toList` on the literal would
    encode and decode it. -/
theorem alphabet_facts :
    (∀ n < 64, decChar (encChar n) = some n ∧ encChar n ≠ '=') ∧ 'A' ∈ stdAlphabet ∧
    ∀ c ∈ stdAlphabet, toUrl c ≠ '=' ∧ toStd (toUrl c) = c ∧ urlSafe (toUrl c) = true := by
  unfold decChar encChar stdAlphabet
  rw [String.toList_ofList]
  decide +kernel

/-- also beyond 63, where `encChar` falls back to `'A'` -/
theorem encChar_mem (n : Nat) : encChar n ∈ stdAlphabet := by
  unfold encChar
  rw [List.getD_eq_getElem?_getD]
  cases h : stdAlphabet[n]? with
  | none => exact alphabet_facts.2.1
  | some c => exact List.mem_of_getElem? h

theorem toUrl_enc_ne_pad (n : Nat) : toUrl (encChar n) ≠ '=' :=
  (alphabet_facts.2.2 _ (encChar_mem n)).1

theorem toStd_toUrl_enc (n : Nat) : toStd (toUrl (encChar n)) = encChar n :=
  (alphabet_facts.2.2 _ (encChar_mem n)).2.1

theorem urlSafe_enc (n : Nat) : urlSafe (toUrl (encChar n)) = true :=
  (alphabet_facts.2.2 _ (encChar_mem n)).2.2

theorem toUrl_pad : toUrl '=' = '=' := by decide

theorem toStd_pad : toStd '=' = '=' := by decide

theorem dstep_encChar {n : Nat} (h : n < 64) (q l p : Nat) (o : List Nat) :
    dstep ⟨q, l, p, o, false⟩ (encChar n) = match q with
      | 0 => ⟨1, n, 0, o, false⟩
      | 1 => ⟨2, n % 16, 0, o ++ [l * 4 + n / 16], false⟩
      | 2 => ⟨3, n % 4, 0, o ++ [l * 16 + n / 4], false⟩
      | _ => ⟨0, 0, 0, o ++ [l * 64 + n], false⟩ := by
  obtain ⟨hd, hp⟩ := alphabet_facts.1 n h
  simp only [dstep, hd, hp]
  rfl

theorem dstep_pad {q : Nat} (hq : 2 ≤ q) (l p : Nat) (o : List Nat) :
    dstep ⟨q, l, p, o, false⟩ '=' = ⟨q, l, p + 1, o, decide (4 ≤ q + (p + 1))⟩ := by
  by_cases h : 4 ≤ q + (p + 1) <;> simp [dstep, hq, h]

def DSt.result (s : DSt) : Option (List Nat) :=
  if s.done || s.quad = 0 then some s.out else none

theorem a2b_eq_result (cs : List Char) : a2b cs = (cs.foldl dstep {}).result := rfl

theorem fold_b64encode (bs : List Nat) (hb : ∀ b ∈ bs, b < 256) (l p : Nat) (o : List Nat) :
    ((b64encode bs).foldl dstep ⟨0, l, p, o, false⟩).result = some (o ++ bs) := by
  -- Each case runs the decoder over the emitted characters by `simp` with `dstep_encChar` (its side condition `n < 64`
  -- is what `disch := omega` discharges, from `hb`) and `dstep_pad`.  What is left for `omega` is that the sextets
  -- reassemble the bytes: for one byte `a / 4 * 4 + a % 4 = a`, for two
  -- `a / 4 * 4 + (a % 4 * 16 + b / 16) / 16 = a ∧ b / 16 % 16 * 16 + b % 16 = b`, for three the same with `c`.
  induction bs using b64encode.induct generalizing l p o with
  | case1 => simp [b64encode, DSt.result]
  | case2 a =>
    simp only [List.forall_mem_cons] at hb
    simp (disch := omega) [b64encode, dstep_encChar, dstep_pad, DSt.result]
    omega
  | case3 a b =>
    simp only [List.forall_mem_cons] at hb
    simp (disch := omega) [b64encode, dstep_encChar, dstep_pad, DSt.result]
    omega
  | case4 a b c rest ih =>
    simp only [List.forall_mem_cons] at hb
    simp (disch := omega) [b64encode, dstep_encChar, ih hb.2.2.2]
    omega

theorem a2b_b64encode (bs : List Nat) (hb : ∀ b ∈ bs, b < 256) : a2b (b64encode bs) = some bs := by
  simpa [a2b_eq_result] using fold_b64encode bs hb 0 0 []

theorem repad_cons4 (w x y z : Char) (cs : List Char) :
    repad (w :: x :: y :: z :: cs) = w :: x :: y :: z :: repad cs := by
  have h : (w :: x :: y :: z :: cs).length % 4 = cs.length % 4 := Nat.add_mod_right cs.length 4
  unfold repad
  rw [h]
  split <;> rfl

theorem repad_encodeTail (bs : List Nat) : (repad (encodeTail bs)).map toStd = b64encode bs := by
  unfold encodeTail
  induction bs using b64encode.induct with
  | case1 => rfl
  | case2 a => simp [b64encode, toUrl_pad, toUrl_enc_ne_pad, repad, toStd_pad, toStd_toUrl_enc]
  | case3 a b => simp [b64encode, toUrl_pad, toUrl_enc_ne_pad, repad, toStd_pad, toStd_toUrl_enc]
  | case4 a b c rest ih =>
    simpa [b64encode, toUrl_enc_ne_pad, repad_cons4, toStd_toUrl_enc] using ih

theorem urlSafe_encodeTail (bs : List Nat) : ∀ c ∈ encodeTail bs, urlSafe c = true := by
  unfold encodeTail
  induction bs using b64encode.induct with
  | case1 => simp [b64encode]
  | case2 a => simp [b64encode, toUrl_pad, toUrl_enc_ne_pad, urlSafe_enc]
  | case3 a b => simp [b64encode, toUrl_pad, toUrl_enc_ne_pad, urlSafe_enc]
  | case4 a b c rest ih =>
    simpa [b64encode, toUrl_enc_ne_pad, urlSafe_enc] using ih

end PV.B64

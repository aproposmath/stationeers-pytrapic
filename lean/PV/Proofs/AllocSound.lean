import PV.Model.AllocCheck
import PV.Proofs.Cfg
/-!
Soundness of the allocation validator: the renamed program and the original one run in lock step and agree on every live
register.
-/
namespace PV.AllocCheck
open PV.IC10

variable {R V : Type} [DecidableEq R] [Special R]
variable {R' : Type} [DecidableEq R'] [Special R']

/-- The registers agree only while the chip runs: an instruction that faults writes nothing, so the registers the certificate
    calls defined are not written and nothing can be said about them (`exec_writes_iff` needs `stops = false`). -/
structure Rel (ρ : R → R') (L : List R) (s : St R V) (t : St R' V) : Prop where
  pc : t.pc = s.pc
  mem : t.mem = s.mem
  trace : t.trace = s.trace
  halted : t.halted = s.halted
  regs : s.halted = false → ∀ v ∈ L, t.regs (ρ v) = s.regs v

omit [DecidableEq R] [Special R] [DecidableEq R'] [Special R'] in
theorem eval_map {ρ : R → R'} {f : R → V} {g : R' → V} {o : Opnd R V}
    (h : ∀ r ∈ opndRegs o, g (ρ r) = f r) : (mapOpnd ρ o).eval g = o.eval f := by
  cases o with
  | reg r => simpa [mapOpnd, Opnd.eval, opndRegs] using h r (by simp [opndRegs])
  | num v => rfl

omit [DecidableEq R] [Special R] [DecidableEq R'] [Special R'] in
theorem vals_map {ρ : R → R'} {f : R → V} {g : R' → V} {args : List (Opnd R V)}
    (h : ∀ r ∈ args.flatMap opndRegs, g (ρ r) = f r) :
    (args.map (mapOpnd ρ)).map (Opnd.eval g) = args.map (Opnd.eval f) := by
  rw [List.map_map]
  exact List.map_congr_left fun o ho => eval_map fun r hr => h r (List.mem_flatMap.2 ⟨o, ho, hr⟩)

theorem exec_writes_iff {sem : Sem V} {env : Env V} {k : Kind} {vals : List V} {spv : V} {pc : Nat} {mem : Nat → V}
    {tr : List (Eff V)} (hrun : (exec sem env k vals spv pc mem tr).next.stops = false) :
    ((exec sem env k vals spv pc mem tr).dst.isSome = true ↔ kindHasDst k = true) ∧
    ((exec sem env k vals spv pc mem tr).sp.isSome = true ↔ k = .push ∨ k = .pop) ∧
    ((exec sem env k vals spv pc mem tr).ra.isSome = true ↔ k = .jal) := by
  have stack := exec_stack sem env vals spv pc mem tr k
  cases k
  case br | brr | brq => simp only [exec_br, exec_brr, exec_brq]; split <;> simp [kindHasDst]
  case push | pop | peek | poke | getdb =>
    rcases stack (by simp) with ⟨w, e⟩ | ⟨-, hr, hs, hd⟩
    · simp [e] at hrun
    · simp [hr, hs, hd, kindHasDst]
  all_goals simp [kindHasDst]


structure OkAt (ρ : R → R') (C : Cert R) (pc : Nat) (i : Instr R V) : Prop where
  uses_live : ∀ u ∈ uses i, u ∈ C.liveIn pc
  out_cov : ∀ v ∈ C.liveOut pc, v ∈ defs i ∨ v ∈ C.liveIn pc
  no_clash : ∀ d ∈ defs i, ∀ v ∈ C.liveOut pc, v ≠ d → ρ v ≠ ρ d
  sp_fix : ρ Special.sp = Special.sp
  ra_fix : ρ Special.ra = Special.ra
  sp_in : Special.sp ∈ C.liveIn pc
  sp_out : Special.sp ∈ C.liveOut pc
  ra_out : Special.ra ∈ C.liveOut pc

theorem okAt_spec (ρ : R → R') (C : Cert R) (pc : Nat) (i : Instr R V) (h : okAt ρ C pc i = true) : OkAt ρ C pc i := by
  unfold okAt at h
  simp only [Bool.and_eq_true, List.all_eq_true, List.contains_iff_mem, Bool.or_eq_true, beq_iff_eq, bne_iff_ne, ne_eq] at h
  -- two conjuncts of `okAt` are not needed for soundness: the pairwise separation of `defs` (it follows from `no_clash`
  -- and `sp_out`: only `pop d` defines two registers) and `ra ∈ liveIn`
  obtain ⟨⟨⟨⟨⟨⟨⟨⟨⟨h1, h2⟩, h3⟩, _⟩, h5⟩, h6⟩, h7⟩, _⟩, h9⟩, h10⟩ := h
  refine ⟨h1, h2, ?_, h5, h6, h7, h9, h10⟩
  intro d hd v hv hne
  rcases h3 d hd v hv with e | e
  · exact absurd e hne
  · exact e

theorem okProg_spec (ρ : R → R') (C : Cert R) (P : List (Instr R V)) (h : okProg ρ C P = true) :
    ∀ pc i, P[pc]? = some i → OkAt ρ C pc i :=
  fun pc i hi => okAt_spec ρ C pc i (all_zipIdx h hi)

omit [Special R] [Special R'] in
theorem updOpt_agree {ρ : R → R'} {f : R → V} {g : R' → V} {r : R} {ov : Option V} {v : R}
    (hsep : ov.isSome = true → ρ v = ρ r → v = r) (hbase : (ov.isSome = true → v ≠ r) → g (ρ v) = f v) :
    updOpt g (ρ r) ov (ρ v) = updOpt f r ov v := by
  cases ov with
  | none => exact hbase (fun h => nomatch h)
  | some x =>
    by_cases e : v = r
    · subst e; simp
    · have : ρ v ≠ ρ r := fun h => e (hsep rfl h)
      rw [updOpt_some, updOpt_some, upd_ne _ _ this, upd_ne _ _ e]
      exact hbase (fun _ => e)

theorem writeBack_agree (ρ : R → R') (f : R → V) (g : R' → V) (dst : Option R) (o : Out V) (v : R)
    (hspfix : ρ Special.sp = Special.sp) (hrafix : ρ Special.ra = Special.ra)
    (hd : ∀ d, dst = some d → o.dst.isSome = true → (ρ v = ρ d → v = d))
    (hra : o.ra.isSome = true → (ρ v = Special.ra → v = Special.ra))
    (hsp : o.sp.isSome = true → (ρ v = Special.sp → v = Special.sp))
    (hbase : (∀ d, dst = some d → o.dst.isSome = true → v ≠ d) → (o.ra.isSome = true → v ≠ Special.ra) →
        (o.sp.isSome = true → v ≠ Special.sp) → g (ρ v) = f v) :
    writeBack g (dst.map ρ) o (ρ v) = writeBack f dst o v := by
  have two : (∀ d, dst = some d → o.dst.isSome = true → v ≠ d) →
      updOpt (updOpt g Special.sp o.sp) Special.ra o.ra (ρ v) = updOpt (updOpt f Special.sp o.sp) Special.ra o.ra v := by
    intro nd
    rw [← hrafix, ← hspfix]
    exact updOpt_agree (fun h e => hra h (e.trans hrafix)) fun nra =>
      updOpt_agree (fun h e => hsp h (e.trans hspfix)) fun nsp => hbase nd nra nsp
  cases dst with
  | none => exact two (fun d h => nomatch h)
  | some d =>
    rw [Option.map_some, writeBack_some, writeBack_some]
    exact updOpt_agree (hd d rfl) fun nd =>
      two (fun d' h hs => by injection h with h; subst h; exact nd hs)

omit [DecidableEq R] [DecidableEq R'] [Special R'] in
theorem mem_defs_iff {i : Instr R V} {v : R} : v ∈ defs i ↔
    (kindHasDst i.kind = true ∧ i.dst = some v) ∨ ((i.kind = .push ∨ i.kind = .pop) ∧ v = Special.sp) ∨
    (i.kind = .jal ∧ v = Special.ra) := by
  unfold defs
  rw [List.mem_append]
  apply or_congr
  · cases kindHasDst i.kind <;> cases i.dst <;> simp [dstList, eq_comm]
  · split
    next h => simp [h]
    next h => simp [h]
    next h => simp [h]
    next h1 h2 h3 => simpa using ⟨fun h => (h.elim h1 h2).elim, fun h => (h3 h).elim⟩

theorem step_rel (sem : Sem V) (env : Env V) (ρ : R → R') (C : Cert R) (P : List (Instr R V))
    (hP : ∀ pc i, P[pc]? = some i → OkAt ρ C pc i) (s : St R V) (t : St R' V)
    (h : Rel ρ (C.liveIn s.pc) s t)
    (hsucc : s.halted = false → (step sem env P s).halted = false → succOk C s.pc (step sem env P s).pc = true) :
    Rel ρ (C.liveIn (step sem env P s).pc) (step sem env P s) (step sem env (P.map (mapInstr ρ)) t) := by
  obtain ⟨hpc, hmem, htr, hh, hregs⟩ := h
  cases hhs : s.halted with
  | true =>
    rw [step_halted hhs, step_halted (hh.trans hhs)]
    exact ⟨hpc, hmem, htr, hh, fun hf => by rw [hhs] at hf; cases hf⟩
  | false =>
    have hht : t.halted = false := hh.trans hhs
    have hregs' := hregs hhs
    have hti : (P.map (mapInstr ρ))[t.pc]? = (P[s.pc]?).map (mapInstr ρ) := by rw [hpc]; simp
    cases hi : P[s.pc]? with
    | none =>
      rw [step_none hhs hi, step_none hht (by rw [hti, hi]; rfl)]
      exact ⟨hpc, hmem, htr, rfl, fun hf => nomatch hf⟩
    | some i =>
      have hok := hP s.pc i hi
      have hvals : (mapInstr ρ i).args.map (Opnd.eval t.regs) = i.args.map (Opnd.eval s.regs) :=
        vals_map fun r hr => hregs' r (hok.uses_live r (List.mem_append_left _ hr))
      have hspv : t.regs Special.sp = s.regs Special.sp := hok.sp_fix ▸ hregs' Special.sp hok.sp_in
      have hsucc' := hsucc hhs
      rw [step_eq hhs hi, applyOut_eq] at hsucc' ⊢
      have ht' : step sem env (P.map (mapInstr ρ)) t = applyOut t (i.dst.map ρ)
          (exec sem env i.kind (i.args.map (Opnd.eval s.regs)) (s.regs Special.sp) s.pc s.mem s.trace) := by
        rw [step_eq hht (by rw [hti, hi]; rfl), hvals, hspv, hpc, hmem, htr]; rfl
      rw [ht', applyOut_eq, hpc, hmem, htr]
      refine ⟨rfl, rfl, rfl, rfl, fun hrun v hv => ?_⟩
      -- the registers the outcome writes are exactly `defs i`
      obtain ⟨hdst, hsp, hjal⟩ := exec_writes_iff hrun
      have hvo : v ∈ C.liveOut s.pc := by
        have hso := hsucc' hrun
        unfold succOk at hso
        rw [List.all_eq_true] at hso
        exact List.contains_iff_mem.mp (hso v hv)
      have clash : ∀ d, d ∈ defs i → ρ v = ρ d → v = d := fun d hd hρ =>
        Decidable.byContradiction fun hne => hok.no_clash d hd v hvo hne hρ
      apply writeBack_agree ρ s.regs t.regs i.dst _ v hok.sp_fix hok.ra_fix
      · exact fun d hd hsome => clash d (mem_defs_iff.mpr (.inl ⟨hdst.mp hsome, hd⟩))
      · exact fun hsome hρ => clash _ (mem_defs_iff.mpr (.inr (.inr ⟨hjal.mp hsome, rfl⟩))) (hρ.trans hok.ra_fix.symm)
      · exact fun hsome hρ => clash _ (mem_defs_iff.mpr (.inr (.inl ⟨hsp.mp hsome, rfl⟩))) (hρ.trans hok.sp_fix.symm)
      · intro hnd hnra hnsp
        rcases hok.out_cov v hvo with hdef | hin
        · exfalso
          rcases mem_defs_iff.mp hdef with ⟨hk, hd⟩ | ⟨hk, rfl⟩ | ⟨hk, rfl⟩
          · exact hnd v hd (hdst.mpr hk) rfl
          · exact hnsp (hsp.mpr hk) rfl
          · exact hnra (hjal.mpr hk) rfl
        · exact hregs' v hin

/-- **soundness of the validator**: if every line passes the local check and every control transfer the ORIGINAL program
    actually performs goes to a line whose live-in is covered (static edges are checked by the validator; for `j ra` / `jr`
    this is the declared-successor side condition), then after any number of steps the renamed program is in the same
    state as the original one — same line, same stack, same effect trace, same halting status — and every live register
    holds the value of the variable or temporary it was renamed from. -/
theorem checkAlloc_sound (sem : Sem V) (env : Env V) (ρ : R → R') (C : Cert R) (P : List (Instr R V))
    (hP : okProg ρ C P = true) :
    ∀ (n : Nat) (s : St R V) (t : St R' V), Rel ρ (C.liveIn s.pc) s t →
    (∀ k, (run sem env P k s).halted = false → (step sem env P (run sem env P k s)).halted = false →
        succOk C (run sem env P k s).pc (step sem env P (run sem env P k s)).pc = true) →
    Rel ρ (C.liveIn (run sem env P n s).pc) (run sem env P n s) (run sem env (P.map (mapInstr ρ)) n t) := by
  have hP' := okProg_spec ρ C P hP
  intro n
  induction n with
  | zero => intro s t h _; exact h
  | succ n ih =>
    intro s t h hdyn
    rw [run_succ, run_succ]
    apply ih
    · exact step_rel sem env ρ C P hP' s t h (hdyn 0)
    · intro k
      have := hdyn (k + 1)
      rw [run_succ] at this
      exact this

theorem checkAlloc_trace_eq (sem : Sem V) (env : Env V) (ρ : R → R') (C : Cert R) (P : List (Instr R V))
    (hP : okProg ρ C P = true) (n : Nat) (s : St R V) (t : St R' V) (h : Rel ρ (C.liveIn s.pc) s t)
    (hdyn : ∀ k, (run sem env P k s).halted = false → (step sem env P (run sem env P k s)).halted = false →
        succOk C (run sem env P k s).pc (step sem env P (run sem env P k s)).pc = true) :
    (run sem env (P.map (mapInstr ρ)) n t).trace = (run sem env P n s).trace ∧
    (run sem env (P.map (mapInstr ρ)) n t).halted = (run sem env P n s).halted :=
  let r := checkAlloc_sound sem env ρ C P hP n s t h hdyn
  ⟨r.trace, r.halted⟩

/-- the only dynamic assumption left: a jump through a register lands on one of its declared successors -/
def IndirectOk (sem : Sem V) (env : Env V) (P : List (Instr R V)) (declared : Nat → List Nat) (s : St R V) : Prop :=
  ∀ k i, (run sem env P k s).halted = false → P[(run sem env P k s).pc]? = some i →
    PV.Cfg.succs sem (run sem env P k s).pc i = none → (step sem env P (run sem env P k s)).halted = false →
    (step sem env P (run sem env P k s)).pc ∈ declared (run sem env P k s).pc

/-- **soundness with the static edge check**: local check + edge check accepted, and jumps through registers land on their
    declared successors ⇒ the allocated program runs in lock step with the program before allocation, forever -/
theorem checkAlloc_sound_static (sem : Sem V) (env : Env V) (ρ : R → R') (C : Cert R) (P : List (Instr R V))
    (declared : Nat → List Nat) (hP : okProg ρ C P = true) (hE : edgesOk sem C P declared = true)
    (n : Nat) (s : St R V) (t : St R' V) (h : Rel ρ (C.liveIn s.pc) s t) (hind : IndirectOk sem env P declared s) :
    Rel ρ (C.liveIn (run sem env P n s).pc) (run sem env P n s) (run sem env (P.map (mapInstr ρ)) n t) := by
  apply checkAlloc_sound sem env ρ C P hP n s t h
  intro k hk hk'
  have hind' := hind k
  generalize run sem env P k s = sk at hk hk' hind'
  cases hi : P[sk.pc]? with
  | none =>
    rw [step_none hk hi] at hk'; cases hk'
  | some i =>
    have he := all_zipIdx hE hi
    cases hs : PV.Cfg.succs sem sk.pc i with
    | some l =>
      simp only [hs, List.all_eq_true] at he
      rcases PV.Cfg.step_pc_mem_succs sem env P sk i l hk hi hs with hh | hmem
      · rw [hh] at hk'; cases hk'
      · exact he _ hmem
    | none =>
      simp only [hs, List.all_eq_true] at he
      exact he _ (hind' i hk hi hs hk')

end PV.AllocCheck

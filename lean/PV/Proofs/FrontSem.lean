import PV.Proofs.Front
/-
Expressions against the reference semantics: `expr_all` — evaluating an expression of the fragment leaves the state alone, and
when it yields a value the flattened code computes that value.  `sound_expr` is its reading for an evaluation that succeeds.
-/
namespace PV.Front
open PV.IC10
open PV.Flatten (Cfg CStmt Reg cmpNames branchPair)
open PV.Core (SSt)

variable {V : Type}

/-- what the proof needs of the value domain: the constants and operations the front end relies on mean what it assumes -/
structure SemOk (sem : Sem V) (cf : Cfg V) : Prop where
  zero : cf.zero = sem.ofNat 0
  neg : ∀ v, sem.alu "sub" [sem.ofNat 0, v] = cf.negV v
  move : ∀ v, sem.alu "move" [v] = v
  one : ∀ v, cf.isOne v = true → sem.truthy v = true
  cmp : ∀ op c neg, cmpNames.contains op = true → branchPair op = some (c, neg) → ∀ a b, sem.truthy (sem.alu op [a, b]) = sem.cond c [a, b]
  nez : ∀ v, sem.truthy v = sem.cond "nez" [v]
  select : ∀ c a b, sem.alu "select" [c, a, b] = if sem.truthy c = true then a else b
  eqz : ∀ v, sem.truthy (sem.alu "seqz" [v]) = sem.cond "eqz" [v]

/-- source state and core state agree: every bound global variable lives in its register (`fsF`: the flattening state at the end
    of the program), same own-stack memory, same effects so far -/
structure Rel (fsF : FS) (st : PV.Src.State V) (σ : SSt V) : Prop where
  vars : ∀ x v, st.globals.get x = some v → ∃ r, fsF.lookup x = some r ∧ σ.regs r = v
  mem : ∀ n, st.mem n = σ.mem n
  trace : st.trace = σ.trace

section
variable {sem : Sem V} {env : Env V} {F : Nat → CStmt V} {P : PV.Src.Program V} {cf : Cfg V} {fsF : FS}

theorem rel_frame {st : PV.Src.State V} {σ σ' : SSt V} {fs : FS} {code : List (CStmt V)}
    (h : Rel fsF st σ) (o : EOut sem env F fsF fs none code σ σ') : Rel fsF st σ' := by
  refine ⟨fun x v hx => ?_, fun n => ?_, ?_⟩
  · obtain ⟨r, h1, h2⟩ := h.vars x v hx
    exact ⟨r, h1, by rw [o.var x r h1 (by simp), h2]⟩
  · rw [h.mem n, o.mem]
  · rw [h.trace, o.trace]

theorem EOut.keeps {fs : FS} {code : List (CStmt V)} {σ σ' : SSt V} (h : EOut sem env F fsF fs none code σ σ') {o : Opnd Reg V}
    (hb : ∀ r, o = .reg r → r < fs.next) : o.eval σ'.regs = o.eval σ.regs := by
  cases o with
  | reg r => exact h.low r (hb r rfl) (by simp)
  | num v => rfl

theorem EOut.retarget {fs : FS} {code : List (CStmt V)} {σ σ' : SSt V} (h : EOut sem env F fsF fs none code σ σ') (tgt : Option Nat) :
    EOut sem env F fsF fs tgt code σ σ' :=
  ⟨h.run, h.trace, h.mem, fun r hr _ => h.low r hr (by simp), fun x r hx _ => h.var x r hx (by simp)⟩

theorem EVal.runs {fs : FS} {tgt : Option Nat} {code : List (CStmt V)} {o : Opnd Reg V} {σ : SSt V} {v : V}
    (h : EVal sem env F fsF fs tgt code o σ v) : ∃ σ', EOut sem env F fsF fs tgt code σ σ' :=
  h.imp fun _ h => h.1

theorem exec_unInstr (n t : Nat) (op : String) (oa : Opnd Reg V) (σ : SSt V) :
    PV.Core.exec sem env F n (unInstr cf t op oa) σ =
      .done { σ with regs := upd σ.regs t (if op == "neg" then sem.alu "sub" [cf.zero, oa.eval σ.regs]
        else if op == "not" then sem.alu "seqz" [oa.eval σ.regs] else sem.alu op [oa.eval σ.regs]) } := by
  unfold unInstr
  split
  · exact PV.Core.exec_alu ..
  · split <;> exact PV.Core.exec_alu ..

/-! The code of an expression without own-stack reads always runs, whatever the reference semantics says about it: needed for
the arm of a conditional expression that Python skips. -/

variable (sem env F) in
theorem FlatE.runs {e : PV.Src.Expr V} {fs : FS} {tgt : Option Nat} {fs1 : FS} {code : List (CStmt V)} {o : Opnd Reg V}
    (h : FlatE cf fs tgt e fs1 code o) :
    ∀ σ, noSget e = true → WF fs → Step fs1 fsF → ∃ σ', EOut sem env F fsF fs tgt code σ σ' := by
  induction h using FlatE.rec (motive_2 := fun fs es fs1 code _ _ =>
    ∀ σ, noSgetL es = true → WF fs → Step fs1 fsF → ∃ σ', EOut sem env F fsF fs none code σ σ') with
  | num | gvar => exact fun σ _ _ _ => ⟨σ, EOut.nil⟩
  | nil σ => exact ⟨σ, EOut.nil⟩
  | bin ha hb ia ib =>
    intro σ hn hwf hF
    simp only [noSget, Bool.and_eq_true] at hn
    have hFb := (step_pick ..).trans hF
    obtain ⟨σ1, o1⟩ := ia σ hn.1 hwf (hb.ext.step.trans hFb)
    obtain ⟨σ2, o2⟩ := ib σ1 hn.2 (ha.ext.wf hwf) hFb
    exact (eval_op (o1.append o2 ha.ext.le) (ha.ext.trans hb.ext) hwf hF (fun n => PV.Core.exec_alu ..)).runs
  | neg ha ia =>
    intro σ hn hwf hF
    obtain ⟨σ1, o1⟩ := ia σ hn hwf hF
    exact ⟨σ1, o1.retarget _⟩
  | un ha ia =>
    intro σ hn hwf hF
    obtain ⟨σ1, o1⟩ := ia σ hn hwf ((step_pick ..).trans hF)
    exact (eval_op o1 ha.ext hwf hF (fun n => exec_unInstr ..)).runs
  | read ha ia =>
    intro σ hn hwf hF
    obtain ⟨σ1, o1⟩ := ia σ hn hwf ((step_pick ..).trans hF)
    exact (eval_op o1 ha.ext hwf hF (fun n => PV.Core.exec_load ..)).runs
  | prim ha ia =>
    intro σ hn hwf hF
    obtain ⟨σ1, o1⟩ := ia σ hn hwf ((step_pick ..).trans hF)
    exact (eval_op o1 ha.ext hwf hF (fun n => PV.Core.exec_alu ..)).runs
  | sget => exact fun _ hn => nomatch hn
  | ifexp hc ha hb _ _ ic ia ib =>
    intro σ hn hwf hF
    simp only [noSget, Bool.and_eq_true] at hn
    have s0 := hc.ext
    have s1 := ha.ext
    have s2 := hb.ext
    have hFc := (step_pick ..).trans hF
    obtain ⟨σ1, o1⟩ := ic σ hn.1.1 hwf (s1.step.trans (s2.step.trans hFc))
    obtain ⟨σ2, o2⟩ := ia σ1 hn.1.2 (s0.wf hwf) (s2.step.trans hFc)
    obtain ⟨σ3, o3⟩ := ib σ2 hn.2 (s1.wf (s0.wf hwf)) hFc
    obtain ⟨σ4, o4⟩ := ib σ3 hn.2 (s1.wf (s0.wf hwf)) hFc
    exact (eval_op (((o1.append o2 s0.le).append o3 (s0.trans s1).le).append o4 (s0.trans s1).le) (s0.trans (s1.trans s2)) hwf hF
      (fun n => PV.Core.exec_alu ..)).runs
  | cons ha hb ia ib σ hn hwf hF =>
    simp only [noSgetL, Bool.and_eq_true] at hn
    obtain ⟨σ1, o1⟩ := ia σ hn.1 hwf (hb.ext.step.trans hF)
    obtain ⟨σ2, o2⟩ := ib σ1 hn.2 (ha.ext.wf hwf) hF
    exact ⟨σ2, o1.append o2 ha.ext.le⟩

/-- `x` leaves the state `st` as it is, and a value it yields satisfies `Q`; of an error nothing is claimed -/
def Yields {α : Type} (x : PV.Src.Res V α) (st : PV.Src.State V) (Q : α → Prop) : Prop :=
  ∃ r, x = (st, r) ∧ ∀ v, r = .ok v → Q v

theorem Yields.error {α : Type} {st : PV.Src.State V} {e : PV.Src.Err} {Q : α → Prop} : Yields (st, .error e) st Q :=
  ⟨_, rfl, fun _ h => nomatch h⟩

theorem Yields.of_ok {α : Type} {x : PV.Src.Res V α} {st st' : PV.Src.State V} {v : α} {Q : α → Prop} (h : Yields x st Q)
    (hx : x = (st', .ok v)) : st' = st ∧ Q v := by
  obtain ⟨r, e1, p⟩ := h
  cases e1.symm.trans hx
  exact ⟨rfl, p v rfl⟩

theorem Yields.ok {α : Type} {st : PV.Src.State V} {v : α} {Q : α → Prop} (h : Q v) : Yields (st, .ok v) st Q :=
  ⟨_, rfl, fun _ e => by cases e; exact h⟩

/-! The statements the proofs work with are named `…All`: one for every outcome of the reference semantics.  First letter: E an
expression, A an argument list, S a statement, B a block, W a `while` on a test, L `while True`.  `…Sound` (a run that ends) and
`…Fuel` (a run out of fuel) are their two readings with every variable bound explicitly, the forms the property theorems
`sound_*` / `fuel_stmt` are stated with; prove new facts from `expr_all` / `stmt_all`. -/

variable (sem env F P cf fsF) in
def EAll (fuel : Nat) : Prop :=
  ∀ ⦃e : PV.Src.Expr V⦄ ⦃fs : FS⦄ ⦃tgt : Option Nat⦄ ⦃fs1 : FS⦄ ⦃code : List (CStmt V)⦄ ⦃o : Opnd Reg V⦄ ⦃st : PV.Src.State V⦄ ⦃σ : SSt V⦄,
    FlatE cf fs tgt e fs1 code o → WF fs → Step fs1 fsF → Rel fsF st σ →
    Yields (PV.Src.evalExpr sem env P fuel [] st e) st (EVal sem env F fsF fs tgt code o σ)

variable (sem env F P cf fsF) in
def AAll (fuel : Nat) : Prop :=
  ∀ ⦃es : List (PV.Src.Expr V)⦄ ⦃fs fs1 : FS⦄ ⦃code : List (CStmt V)⦄ ⦃os : List (Opnd Reg V)⦄ ⦃st : PV.Src.State V⦄ ⦃σ : SSt V⦄,
    FlatArgs cf fs es fs1 code os → WF fs → Step fs1 fsF → Rel fsF st σ →
    Yields (PV.Src.evalArgs sem env P fuel [] st es) st fun vs =>
      ∃ σ', EOut sem env F fsF fs none code σ σ' ∧ PV.Core.evalArgs σ'.regs os = vs

theorem aall_nil {fuel : Nat} {fs : FS} {st : PV.Src.State V} {σ : SSt V} :
    Yields (PV.Src.evalArgs sem env P fuel [] st []) st fun vs =>
      ∃ σ', EOut sem env F fsF fs none [] σ σ' ∧ PV.Core.evalArgs σ'.regs [] = vs := by
  simp only [PV.Src.evalArgs]
  exact Yields.ok ⟨σ, EOut.nil, rfl⟩

theorem aall_of {fuel : Nat} (hE : EAll sem env F P cf fsF fuel) (hA : AAll sem env F P cf fsF fuel) :
    AAll sem env F P cf fsF (fuel + 1) := by
  intro es fs fs1 code os st σ hf hwf hF hrel
  cases hf with
  | nil => exact aall_nil
  | cons ha hb =>
    have sa := ha.ext
    rcases hE ha hwf (hb.ext.step.trans hF) hrel with ⟨err | va, e1, p1⟩ <;> simp only [PV.Src.evalArgs, e1]
    · exact Yields.error
    obtain ⟨σ1, o1, v1⟩ := p1 va rfl
    rcases hA hb (sa.wf hwf) hF (rel_frame hrel o1) with ⟨err | vs, e2, p2⟩ <;> simp only [e2]
    · exact Yields.error
    obtain ⟨σ2, o2, v2⟩ := p2 vs rfl
    refine Yields.ok ⟨σ2, o1.append o2 sa.le, ?_⟩
    simp only [PV.Core.evalArgs, List.map_cons, List.cons.injEq]
    exact ⟨(o2.keeps (ha.tmp_lt hwf)).trans v1, v2⟩

theorem eall_of (hok : SemOk sem cf) {fuel : Nat} (hE : EAll sem env F P cf fsF fuel) (hA : AAll sem env F P cf fsF fuel) :
    EAll sem env F P cf fsF (fuel + 1) := by
  intro e fs tgt fs1 code o st σ hf hwf hF hrel
  cases hf with
  | num =>
    simp only [PV.Src.evalExpr]
    exact Yields.ok ⟨σ, EOut.nil, rfl⟩
  | gvar x r hr =>
    simp only [PV.Src.evalExpr]
    cases hg : st.globals.get x with
    | none => exact Yields.error
    | some w =>
      obtain ⟨r', h1, h2⟩ := hrel.vars x w hg
      cases Option.some.inj (h1.symm.trans (hF.2.1 x r hr))
      exact Yields.ok ⟨σ, EOut.nil, h2⟩
  | bin ha hb =>
    have sa := ha.ext
    have hFb := (step_pick ..).trans hF
    rcases hE ha hwf (hb.ext.step.trans hFb) hrel with ⟨err | va, e1, p1⟩ <;> simp only [PV.Src.evalExpr, e1]
    · exact Yields.error
    obtain ⟨σ1, o1, v1⟩ := p1 va rfl
    rcases hE hb (sa.wf hwf) hFb (rel_frame hrel o1) with ⟨err | vb, e2, p2⟩ <;> simp only [e2]
    · exact Yields.error
    obtain ⟨σ2, o2, v2⟩ := p2 vb rfl
    exact Yields.ok (eval_op (o1.append o2 sa.le) (sa.trans hb.ext) hwf hF (fun n => by
      rw [PV.Core.exec_alu, PV.Core.evalArgs, List.map_cons, List.map_cons, List.map_nil, o2.keeps (ha.tmp_lt hwf), v1, v2]))
  | neg ha =>
    rcases hE ha hwf hF hrel with ⟨err | va, e1, p1⟩ <;> simp only [PV.Src.evalExpr, e1]
    · exact Yields.error
    obtain ⟨σ1, o1, v1⟩ := p1 va rfl
    refine Yields.ok ⟨σ1, o1.retarget _, ?_⟩
    simp only [Opnd.eval] at v1 ⊢
    rw [if_pos (beq_self_eq_true _), ← v1, hok.neg]
  | un ha =>
    rcases hE ha hwf ((step_pick ..).trans hF) hrel with ⟨err | va, e1, p1⟩ <;> simp only [PV.Src.evalExpr, e1]
    · exact Yields.error
    obtain ⟨σ1, o1, v1⟩ := p1 va rfl
    exact Yields.ok (eval_op o1 ha.ext hwf hF (fun n => by rw [exec_unInstr, v1, hok.zero]))
  | read ha =>
    rcases hA ha hwf ((step_pick ..).trans hF) hrel with ⟨err | vs, e1, p1⟩ <;> simp only [PV.Src.evalExpr, e1]
    · exact Yields.error
    obtain ⟨σ1, o1, v1⟩ := p1 vs rfl
    exact Yields.ok (eval_op o1 ha.ext hwf hF (fun n => by rw [PV.Core.exec_load, v1, o1.trace, ← hrel.trace]))
  | prim ha =>
    rcases hA ha hwf ((step_pick ..).trans hF) hrel with ⟨err | vs, e1, p1⟩ <;> simp only [PV.Src.evalExpr, e1]
    · exact Yields.error
    obtain ⟨σ1, o1, v1⟩ := p1 vs rfl
    exact Yields.ok (eval_op o1 ha.ext hwf hF (fun n => by rw [PV.Core.exec_alu, v1]))
  | sget ha =>
    rcases hE ha hwf ((step_pick ..).trans hF) hrel with ⟨err | va, e1, p1⟩ <;> simp only [PV.Src.evalExpr, e1]
    · exact Yields.error
    obtain ⟨σ1, o1, v1⟩ := p1 va rfl
    cases hn : sem.toAddr va with
    | none => exact Yields.error
    | some n =>
      by_cases hlt : n < stackSize
      · simp only [hlt, if_true]
        exact Yields.ok (eval_op o1 ha.ext hwf hF (fun k => by
          rw [PV.Core.exec_getm (v1.symm ▸ hn) hlt, o1.mem, ← hrel.mem n]))
      · simp only [hlt, if_false]; exact Yields.error
  | ifexp hc ha hb hna hnb =>
    have s0 := hc.ext
    have s1 := ha.ext
    have s2 := hb.ext
    have hFc := (step_pick ..).trans hF
    have wfa := s0.wf hwf
    have wfb := s1.wf wfa
    have bc := hc.tmp_lt hwf
    rcases hE hc hwf (s1.step.trans (s2.step.trans hFc)) hrel with ⟨err | vc, e1, p1⟩ <;> simp only [PV.Src.evalExpr, e1]
    · exact Yields.error
    obtain ⟨σ1, o1, v1⟩ := p1 vc rfl
    have rel1 := rel_frame hrel o1
    -- the arm Python skips runs by `FlatE.runs`, the chosen one by `hE`; `select` then picks the chosen value
    by_cases htrue : sem.truthy vc = true
    · simp only [PV.Src.truthy, htrue, if_true]
      obtain ⟨r2, e2, p2⟩ := hE ha wfa (s2.step.trans hFc) rel1
      refine ⟨r2, e2, fun v hv => ?_⟩
      obtain ⟨σ2, o2, v2⟩ := p2 v hv
      obtain ⟨σ3, o3⟩ := hb.runs sem env F σ2 hnb wfb hFc
      obtain ⟨σ4, o4⟩ := hb.runs sem env F σ3 hnb wfb hFc
      have o34 := o3.append o4 (Nat.le_refl _)
      exact eval_op (((o1.append o2 s0.le).append o3 (s0.trans s1).le).append o4 (s0.trans s1).le) (s0.trans (s1.trans s2)) hwf hF
        (fun n => by
          rw [PV.Core.exec_alu, PV.Core.evalArgs, List.map_cons, List.map_cons, List.map_cons, List.map_nil,
            o34.keeps (ha.tmp_lt wfa), v2, o34.keeps (fun r hr => Nat.lt_of_lt_of_le (bc r hr) s1.le), o2.keeps bc, v1,
            hok.select, if_pos htrue])
    · simp only [PV.Src.truthy, htrue, if_false, Bool.false_eq_true]
      obtain ⟨σ2, o2⟩ := ha.runs sem env F σ1 hna wfa (s2.step.trans hFc)
      have rel2 := rel_frame rel1 o2
      obtain ⟨r3, e3, p3⟩ := hE hb wfb hFc rel2
      refine ⟨r3, e3, fun v hv => ?_⟩
      obtain ⟨σ3, o3, v3⟩ := p3 v hv
      obtain ⟨r4, e4, p4⟩ := hE hb wfb hFc (rel_frame rel2 o3)
      obtain ⟨σ4, o4, v4⟩ := p4 v ((Prod.mk.inj (e4.symm.trans e3)).2.trans hv)
      have o234 := (o2.append o3 s1.le).append o4 s1.le
      exact eval_op (((o1.append o2 s0.le).append o3 (s0.trans s1).le).append o4 (s0.trans s1).le) (s0.trans (s1.trans s2)) hwf hF
        (fun n => by
          rw [PV.Core.exec_alu, PV.Core.evalArgs, List.map_cons, List.map_cons, List.map_cons, List.map_nil, v4, o234.keeps bc, v1,
            hok.select, if_neg htrue])

end

section
variable (sem : Sem V) (env : Env V) (F : Nat → CStmt V) (P : PV.Src.Program V) (cf : Cfg V) (fsF : FS)

theorem expr_all (hok : SemOk sem cf) : ∀ fuel, EAll sem env F P cf fsF fuel ∧ AAll sem env F P cf fsF fuel := by
  intro fuel
  induction fuel with
  | zero =>
    constructor
    · intro e fs tgt fs1 code o st σ hf hwf hF hrel
      simp only [PV.Src.evalExpr]; exact Yields.error
    · intro es fs fs1 code os st σ hf hwf hF hrel
      cases hf with
      | nil => exact aall_nil
      | cons ha hb => simp only [PV.Src.evalArgs]; exact Yields.error
  | succ fuel ih => exact ⟨eall_of hok ih.1 ih.2, aall_of ih.1 ih.2⟩

theorem flatE_total : ∀ (e : PV.Src.Expr V) (fs : FS) (tgt : Option Nat) (fs1 : FS) (code : List (CStmt V)) (o : Opnd Reg V) (σ : SSt V),
    flatE cf fs tgt e = some (fs1, code, o) → noSget e = true → WF fs → Step fs1 fsF → (∀ t, tgt = some t → t < fs.next) →
    ∃ σ', EOut sem env F fsF fs tgt code σ σ' ∧ (∀ r, o = .reg r → r < fs1.next) :=
  fun _ _ _ _ _ _ σ hf hn hwf hF htgt => ((flatE_rel hf).runs sem env F σ hn hwf hF).imp fun _ h => ⟨h, (flatE_rel hf).opnd_lt hwf htgt⟩

def ESound (fuel : Nat) : Prop :=
  ∀ (e : PV.Src.Expr V) (fs : FS) (tgt : Option Nat) (fs1 : FS) (code : List (CStmt V)) (o : Opnd Reg V) (st st' : PV.Src.State V) (v : V) (σ : SSt V),
    flatE cf fs tgt e = some (fs1, code, o) → PV.Src.evalExpr sem env P fuel [] st e = (st', .ok v) →
    WF fs → Step fs1 fsF → (∀ t, tgt = some t → t < fs.next) → Rel fsF st σ →
    st' = st ∧ ∃ σ', EOut sem env F fsF fs tgt code σ σ' ∧ o.eval σ'.regs = v ∧ (∀ r, o = .reg r → r < fs1.next)

def ASound (fuel : Nat) : Prop :=
  ∀ (es : List (PV.Src.Expr V)) (fs fs1 : FS) (code : List (CStmt V)) (os : List (Opnd Reg V)) (st st' : PV.Src.State V) (vs : List V) (σ : SSt V),
    flatArgs cf fs es = some (fs1, code, os) → PV.Src.evalArgs sem env P fuel [] st es = (st', .ok vs) →
    WF fs → Step fs1 fsF → Rel fsF st σ →
    st' = st ∧ ∃ σ', EOut sem env F fsF fs none code σ σ' ∧ PV.Core.evalArgs σ'.regs os = vs ∧ (∀ o ∈ os, ∀ r, o = .reg r → r < fs1.next)

/-- **expressions**: the flattened code of an expression computes the value the reference semantics gives it -/
theorem sound_expr (hok : SemOk sem cf) : ∀ fuel, ESound sem env F P cf fsF fuel ∧ ASound sem env F P cf fsF fuel := by
  intro fuel
  have h := expr_all sem env F P cf fsF hok fuel
  constructor
  · intro e fs tgt fs1 code o st st' v σ hf he hwf hF htgt hrel
    obtain ⟨rfl, σ', o1, v1⟩ := (h.1 (flatE_rel hf) hwf hF hrel).of_ok he
    exact ⟨rfl, σ', o1, v1, (flatE_rel hf).opnd_lt hwf htgt⟩
  · intro es fs fs1 code os st st' vs σ hf he hwf hF hrel
    obtain ⟨rfl, σ', o1, v1⟩ := (h.2 (flatArgs_rel hf) hwf hF hrel).of_ok he
    exact ⟨rfl, σ', o1, v1, (flatArgs_rel hf).opnd_lt hwf⟩

end
end PV.Front

import PV.Model.Cfg
import PV.Proofs.Machine
namespace PV.Cfg
open PV.IC10

section
variable {R V : Type} {sem : Sem V}

/-! The machine reads the jump operand of a line from the operand VALUES (first value of `j` / `jal`, last value of a
    branch, the literal `0` when there is none); `succs` reads it from the operands.  Both are "the operand, or the
    literal `0`", and a literal operand has the same value in every register file. -/

theorem headD_map_eval (f : R → V) (args : List (Opnd R V)) (d : V) :
    (args.map (Opnd.eval f)).headD d = (args.headD (.num d)).eval f := by
  cases args <;> rfl

theorem getLastD_map_eval (f : R → V) (args : List (Opnd R V)) (d : V) :
    (args.map (Opnd.eval f)).getLastD d = (args.getLast?.getD (.num d)).eval f := by
  rw [List.getLastD_eq_getLast?, List.getLast?_map]
  cases args.getLast? <;> rfl

theorem numTarget_eval {a : Opnd R V} {t : Option Nat} (h : numTarget sem a = some t) (f : R → V) :
    sem.toAddr (a.eval f) = t := by
  cases a with
  | reg r => cases h
  | num v => injection h

theorem relTarget_eval {pc : Nat} {a : Opnd R V} {t : Option Nat} (h : relTarget sem pc a = some t) (f : R → V) :
    sem.toAddr (sem.alu "add" [sem.ofNat pc, a.eval f]) = t := by
  cases a with
  | reg r => cases h
  | num v => injection h

variable {pc : Nat} {i : Instr R V}

theorem succs_jmp (hk : i.kind = .jmp ∨ i.kind = .jal) :
    succs sem pc i = (numTarget sem (i.args.headD (.num (sem.ofNat 0)))).map optList := by
  unfold succs
  rcases hk with hk | hk <;> rw [hk] <;> cases i.args <;> rfl

theorem succs_br (hk : (∃ c, i.kind = .br c) ∨ ∃ q neg, i.kind = .brq q neg) :
    succs sem pc i = (numTarget sem (i.args.getLast?.getD (.num (sem.ofNat 0)))).map (fun t => (pc + 1) :: optList t) := by
  unfold succs
  rcases hk with ⟨c, hk⟩ | ⟨q, neg, hk⟩ <;> rw [hk] <;> cases i.args.getLast? <;> rfl

theorem succs_brr (hk : ∃ c, i.kind = .brr c) :
    succs sem pc i = (relTarget sem pc (i.args.getLast?.getD (.num (sem.ofNat 0)))).map (fun t => (pc + 1) :: optList t) := by
  unfold succs
  obtain ⟨c, hk⟩ := hk
  rw [hk]; cases i.args.getLast? <;> rfl

theorem succs_seq {l : List Nat} (hne : i.kind ≠ .jmp ∧ i.kind ≠ .jal) (hs : succs sem pc i = some l) : pc + 1 ∈ l := by
  have cons : ∀ {x : Option (Option Nat)}, x.map (fun t => (pc + 1) :: optList t) = some l → pc + 1 ∈ l := by
    rintro x h
    obtain ⟨t, -, rfl⟩ := Option.map_eq_some_iff.mp h
    exact List.mem_cons_self
  cases hk : i.kind
  case jmp => exact absurd hk hne.1
  case jal => exact absurd hk hne.2
  case br c => exact cons (succs_br (.inl ⟨c, hk⟩) ▸ hs)
  case brq q neg => exact cons (succs_br (.inr ⟨q, neg, hk⟩) ▸ hs)
  case brr c => exact cons (succs_brr ⟨c, hk⟩ ▸ hs)
  all_goals
    simp only [succs, hk, Option.some.injEq] at hs
    simp [← hs]

end

variable {R V : Type} [DecidableEq R] [Special R]

/-- **a step from a line with static successors lands on one of them, or the chip has stopped** -/
theorem step_pc_mem_succs (sem : Sem V) (env : Env V) (P : List (Instr R V)) (s : St R V) (i : Instr R V) (l : List Nat)
    (hh : s.halted = false) (hi : P[s.pc]? = some i) (hs : succs sem s.pc i = some l) :
    (step sem env P s).halted = true ∨ (step sem env P s).pc ∈ l := by
  rw [step_eq hh hi, applyOut_eq]
  cases hn : (exec sem env i.kind (i.args.map (Opnd.eval s.regs)) (s.regs Special.sp) s.pc s.mem s.trace).next
  case halt | fault => exact .inl rfl
  case seq => exact .inr (succs_seq (exec_next_seq hn) hs)
  case jump n =>
    right
    show n ∈ l
    have mem_opt : ∀ {t : Option Nat}, t = some n → n ∈ optList t := by rintro _ rfl; simp [optList]
    rcases exec_next_jump hn with ⟨hk, ht⟩ | ⟨hk, ht⟩ | ⟨hk, ht⟩
    · rw [succs_jmp hk] at hs
      obtain ⟨t, ha, rfl⟩ := Option.map_eq_some_iff.mp hs
      rw [headD_map_eval, numTarget_eval ha] at ht
      exact mem_opt ht
    · rw [succs_br hk] at hs
      obtain ⟨t, ha, rfl⟩ := Option.map_eq_some_iff.mp hs
      rw [getLastD_map_eval, numTarget_eval ha] at ht
      exact List.mem_cons_of_mem _ (mem_opt ht)
    · rw [succs_brr hk] at hs
      obtain ⟨t, ha, rfl⟩ := Option.map_eq_some_iff.mp hs
      rw [getLastD_map_eval, relTarget_eval ha] at ht
      exact List.mem_cons_of_mem _ (mem_opt ht)

end PV.Cfg

import PV.Proofs.FrontSem
/-
Statements against the reference semantics: `stmt_all` treats every statement form once, for every outcome (`Post`): a run that
ends is matched exit for exit (`sound_stmt`, `front_sound`), a run that stops with an error — out of fuel above all, i.e. a program
that keeps running — has performed effects the flattened program performs too (`fuel_stmt`, `front_prefix`).
-/
namespace PV.Front
open PV.IC10
open PV.Flatten (Cfg CStmt Reg seqAll)
open PV.Core (SSt Exit again)

variable {V : Type}

def exitOf : PV.Src.Signal V → Exit
  | .normal => .norm
  | .brk => .brk
  | .cont => .cont
  | .ret _ => .ret

theorem _root_.PV.Src.Store.get_set (s : PV.Src.Store V) (x y : String) (v : V) :
    (s.set x v).get y = if y = x then some v else s.get y := by
  -- replacing the value of key `x` changes no key, so the same entry is found
  have key : ((fun (p : String × V) => p.1 == y) ∘ fun p => if p.1 == x then (x, v) else p) = fun p => p.1 == y :=
    funext fun q => by by_cases h : q.1 = x <;> simp [h]
  unfold PV.Src.Store.set PV.Src.Store.get
  split
  · rename_i hany
    rw [List.find?_map, key]
    cases hf : s.find? (fun p => p.1 == y) with
    | none =>
      have hy : y ≠ x := fun e => by
        obtain ⟨q, hq, hq2⟩ := List.any_eq_true.1 hany
        exact List.find?_eq_none.1 hf q hq (e ▸ hq2)
      simp [hy]
    | some q =>
      have hq : q.1 = y := by simpa using List.find?_some hf
      by_cases hy : y = x <;> simp [hq, hy]
  · by_cases hy : y = x
    · simp [hy]
    · simp [hy, Ne.symm hy]

section
variable {sem : Sem V} {env : Env V} {F : Nat → CStmt V} {P : PV.Src.Program V} {cf : Cfg V} {fsF : FS}

/-- `WF`'s second clause (no two variables share a register) is what an assignment needs -/
theorem rel_assign {st : PV.Src.State V} {σ σ2 : SSt V} {x : String} {rx : Nat} {v : V} (hwfF : WF fsF) (hrel : Rel fsF st σ)
    (hx : fsF.lookup x = some rx) (h1 : σ2.regs rx = v) (h2 : ∀ y r, fsF.lookup y = some r → r ≠ rx → σ2.regs r = σ.regs r)
    (h3 : σ2.mem = σ.mem) (h4 : σ2.trace = σ.trace) : Rel fsF { st with globals := st.globals.set x v } σ2 := by
  refine ⟨fun y w hy => ?_, fun n => by rw [h3]; exact hrel.mem n, by rw [h4]; exact hrel.trace⟩
  simp only [PV.Src.Store.get_set] at hy
  by_cases hyx : y = x
  · simp only [hyx, if_true, Option.some.injEq] at hy
    exact ⟨rx, by rw [hyx]; exact hx, by rw [h1, hy]⟩
  · simp only [hyx, if_false] at hy
    obtain ⟨r, hr1, hr2⟩ := hrel.vars y w hy
    refine ⟨r, hr1, ?_⟩
    rw [h2 y r hr1 (fun e => hyx (hwfF.2 y x rx (by rw [← e]; exact hr1) hx)), hr2]

variable (sem env F P cf fsF) in
theorem test_all (hok : SemOk sem cf) (fuel : Nat) {c : PV.Src.Expr V} {fs fs1 : FS} {pre : List (CStmt V)} {cnd neg : String}
    {os : List (Opnd Reg V)} {st : PV.Src.State V} {σ : SSt V}
    (hf : FlatTest cf fs c fs1 pre cnd neg os) (hwf : WF fs) (hF : Step fs1 fsF) (hrel : Rel fsF st σ) :
    Yields (PV.Src.evalExpr sem env P fuel [] st c) st fun v =>
      ∃ σ', EOut sem env F fsF fs none pre σ σ' ∧ sem.cond cnd (PV.Core.evalArgs σ'.regs os) = sem.truthy v := by
  cases fuel with
  | zero => simp only [PV.Src.evalExpr]; exact Yields.error
  | succ fuel =>
    have hE := (expr_all sem env F P cf fsF hok fuel).1
    cases hf with
    | cmp hcn hbp ha hb =>
      have sa := ha.ext
      rcases hE ha hwf (hb.ext.step.trans hF) hrel with ⟨err | va, e1, p1⟩ <;> simp only [PV.Src.evalExpr, e1]
      · exact Yields.error
      obtain ⟨σ1, o1, v1⟩ := p1 va rfl
      rcases hE hb (sa.wf hwf) hF (rel_frame hrel o1) with ⟨err | vb, e2, p2⟩ <;> simp only [e2]
      · exact Yields.error
      obtain ⟨σ2, o2, v2⟩ := p2 vb rfl
      refine Yields.ok ⟨σ2, o1.append o2 sa.le, ?_⟩
      rw [PV.Core.evalArgs, List.map_cons, List.map_cons, List.map_nil, o2.keeps (ha.tmp_lt hwf), v1, v2]
      exact (hok.cmp _ cnd neg hcn hbp va vb).symm
    | truth ha =>
      obtain ⟨r, e1, p⟩ := (expr_all sem env F P cf fsF hok (fuel + 1)).1 ha hwf hF hrel
      refine ⟨r, e1, fun v hv => ?_⟩
      obtain ⟨σ1, o1, v1⟩ := p v hv
      refine ⟨σ1, o1, ?_⟩
      rw [PV.Core.evalArgs, List.map_cons, List.map_nil, v1]; exact (hok.nez v).symm
    | falsity ha =>
      rcases hE ha hwf hF hrel with ⟨err | ve, e1, p⟩ <;> simp only [PV.Src.evalExpr, e1]
      · exact Yields.error
      obtain ⟨σ1, o1, v1⟩ := p ve rfl
      refine Yields.ok ⟨σ1, o1, ?_⟩
      rw [PV.Core.evalArgs, List.map_cons, List.map_nil, v1]; exact (hok.eqz ve).symm

variable (sem env F fsF) in
/-- the result of running the code of a statement: the exit that corresponds to the signal, in a related state; the local store
    of the main code stays empty.  Fuel at least the source's is enough: the source spends fuel at every nesting level and loop
    iteration, the core only at loop iterations. -/
def SOut (fuel : Nat) (c : CStmt V) (st' : PV.Src.State V) (loc' : PV.Src.Store V) (sig : PV.Src.Signal V) (σ : SSt V) : Prop :=
  loc' = [] ∧ ∃ σ', (∀ m, fuel ≤ m → PV.Core.exec sem env F m c σ = .ok (exitOf sig) σ') ∧ Rel fsF st' σ'

variable (sem env F) in
/-- the code has at least the effects the reference semantics had performed when it stopped with an error — above all when its
    fuel ran out -/
def FOut (fuel : Nat) (c : CStmt V) (st' : PV.Src.State V) (σ : SSt V) : Prop :=
  ∀ m, fuel ≤ m → Grow st'.trace (PV.Core.exec sem env F m c σ)

variable (sem env F fsF) in
/-- what the code `c`, run from `σ`, has to do given the outcome of the reference semantics: if that run ended, end with the
    corresponding exit in a related state; if it stopped with an error (out of fuel, a fault), perform at least its effects -/
def Post (fuel : Nat) (c : CStmt V) : PV.Src.Res V (PV.Src.Store V × PV.Src.Signal V) → SSt V → Prop
  | (st', .ok (loc', sig)), σ => SOut sem env F fsF fuel c st' loc' sig σ
  | (st', .error _), σ => FOut sem env F fuel c st' σ

section post
variable {fuel : Nat} {c : CStmt V} {σ : SSt V} {res : PV.Src.Res V (PV.Src.Store V × PV.Src.Signal V)}

/-- an error leaves the source state where the last related pair was, so `exec_grows` alone gives the claim, for any code -/
theorem Post.stop {st : PV.Src.State V} {e : PV.Src.Err} (hrel : Rel fsF st σ) :
    Post sem env F fsF fuel c (st, .error e) σ := by
  intro m _
  rw [hrel.trace]
  exact exec_grows sem env F m c σ

/-- `Post` only looks at the results of `exec`: it moves along any equation between runs -/
theorem Post.of_exec {fuel' : Nat} {c' : CStmt V} {σ' : SSt V}
    (h : ∀ m, fuel' ≤ m → ∃ m', fuel ≤ m' ∧ PV.Core.exec sem env F m c σ = PV.Core.exec sem env F m' c' σ')
    (hp : Post sem env F fsF fuel c' res σ') : Post sem env F fsF fuel' c res σ := by
  obtain ⟨st', (e | ⟨loc', sig⟩)⟩ := res
  · intro m hm
    obtain ⟨m', hm', e⟩ := h m hm
    rw [e]; exact hp m' hm'
  · obtain ⟨el, σ'', run, rel⟩ := hp
    exact ⟨el, σ'', fun m hm => by obtain ⟨m', hm', e⟩ := h m hm; rw [e]; exact run m' hm', rel⟩

theorem Post.of_eq {res' : PV.Src.Res V (PV.Src.Store V × PV.Src.Signal V)} (hp : Post sem env F fsF fuel c res σ) (e : res = res') :
    Post sem env F fsF fuel c res' σ :=
  e ▸ hp

theorem Post.mono (hp : Post sem env F fsF fuel c res σ) : Post sem env F fsF (fuel + 1) c res σ :=
  Post.of_exec (fun m hm => ⟨m, by omega, rfl⟩) hp

theorem Post.after {fuel' : Nat} {pre rest : List (CStmt V)} {σ1 : SSt V}
    (hle : fuel ≤ fuel') (hrun : ∀ m, fuel ≤ m → PV.Core.exec sem env F m (seqAll pre) σ = .done σ1)
    (hp : Post sem env F fsF fuel (seqAll rest) res σ1) : Post sem env F fsF fuel' (seqAll (pre ++ rest)) res σ :=
  Post.of_exec (fun m hm => ⟨m, by omega, exec_seqAll_append_done (hrun m (by omega))⟩) hp

theorem Post.exits {ca cb : List (CStmt V)}
    (hne : ∀ st' loc', res = (st', .ok (loc', .normal)) → False) (h : Post sem env F fsF fuel (seqAll ca) res σ) :
    Post sem env F fsF fuel (seqAll (ca ++ cb)) res σ := by
  obtain ⟨st', (e | ⟨loc', sig⟩)⟩ := res
  · intro m hm
    rw [exec_seqAll_append]
    exact (h m hm).bind (grow_thenRun (exec_grows sem env F m _))
  · obtain ⟨el, σ1, run1, rel1⟩ := h
    refine ⟨el, σ1, fun m hm => ?_, rel1⟩
    rw [exec_seqAll_append, run1 m hm]
    cases sig with
    | normal => exact (hne st' loc' rfl).elim
    | brk => rfl
    | cont => rfl
    | ret w => rfl

theorem Post.branch {fs : FS} {tgt : Option Nat} {pre : List (CStmt V)} {s c' : CStmt V} {σ1 : SSt V}
    (o1 : EOut sem env F fsF fs tgt pre σ σ1) (hs : ∀ m, PV.Core.exec sem env F m s σ1 = PV.Core.exec sem env F m c' σ1)
    (hp : Post sem env F fsF fuel c' res σ1) : Post sem env F fsF (fuel + 1) (seqAll (pre ++ [s])) res σ :=
  Post.of_exec (fun m hm => ⟨m, by omega, (exec_seqAll_append_done (o1.run m)).trans (hs m)⟩) hp

theorem Post.instr {fs : FS} {tgt : Option Nat} {pre : List (CStmt V)} {s : CStmt V} {σ1 σ2 : SSt V} {st' : PV.Src.State V}
    (o1 : EOut sem env F fsF fs tgt pre σ σ1) (hs : ∀ m, PV.Core.exec sem env F m s σ1 = .done σ2) (rel : Rel fsF st' σ2) :
    Post sem env F fsF fuel (seqAll (pre ++ [s])) (st', .ok ([], .normal)) σ :=
  ⟨rfl, σ2, fun m _ => (exec_seqAll_append_done (o1.run m)).trans (hs m), rel⟩

theorem Post.effect {fs : FS} {pre : List (CStmt V)} {s : CStmt V} {σ1 : SSt V} {st : PV.Src.State V} {eff : Eff V}
    (o1 : EOut sem env F fsF fs none pre σ σ1) (hs : ∀ m, PV.Core.exec sem env F m s σ1 = .done { σ1 with trace := eff :: σ1.trace })
    (hrel : Rel fsF st σ) :
    Post sem env F fsF fuel (seqAll (pre ++ [s])) ({ st with trace := eff :: st.trace }, .ok ([], .normal)) σ :=
  have rel1 := rel_frame hrel o1
  Post.instr o1 hs ⟨rel1.vars, rel1.mem, by simp only [rel1.trace]⟩

end post

/-- one iteration of a source loop whose test holds, against a core loop `lp` that runs the body's code `cb` and then goes on as
    `again` says — `while` when its condition holds, `while True` always -/
theorem post_while {fuel : Nat} {lp cb : CStmt V} {st : PV.Src.State V} {σ : SSt V} {c : PV.Src.Expr V} {body : List (PV.Src.Stmt V)} {vc : V}
    (hev : PV.Src.evalExpr sem env P fuel [] st c = (st, .ok vc)) (ht : sem.truthy vc = true)
    (hstep : ∀ n, PV.Core.exec sem env F (n + 1) lp σ = (PV.Core.exec sem env F (n + 1) cb σ).bind (again (PV.Core.exec sem env F n lp)))
    (hb : Post sem env F fsF fuel cb (PV.Src.execBlock sem env P fuel [] st body) σ)
    (hnext : ∀ s2 σ2, Rel fsF s2 σ2 → Post sem env F fsF fuel lp (PV.Src.execWhile sem env P fuel [] s2 c body) σ2) :
    Post sem env F fsF (fuel + 1) lp (PV.Src.execWhile sem env P (fuel + 1) [] st c body) σ := by
  have unroll : ∀ m, fuel + 1 ≤ m → ∃ m', m = m' + 1 ∧ fuel ≤ m' := fun m hm => ⟨m - 1, by omega, by omega⟩
  simp only [PV.Src.execWhile, hev, PV.Src.truthy, ht, if_true]
  rcases hres : PV.Src.execBlock sem env P fuel [] st body with ⟨s2, (e | ⟨l2, sig⟩)⟩ <;> rw [hres] at hb
  · intro m hm
    obtain ⟨m', rfl, hm'⟩ := unroll m hm
    rw [hstep]
    exact (hb (m' + 1) (by omega)).bind (grow_again (exec_grows sem env F m' _))
  · obtain ⟨rfl, σ2, run2, rel2⟩ := hb
    have run : ∀ m', fuel ≤ m' → PV.Core.exec sem env F (m' + 1) lp σ = again (PV.Core.exec sem env F m' lp) (exitOf sig) σ2 :=
      fun m' hm' => by rw [hstep, run2 (m' + 1) (by omega)]; rfl
    cases sig with
    | normal | cont =>
      refine Post.of_exec (fun m hm => ?_) (hnext s2 σ2 rel2)
      obtain ⟨m', rfl, hm'⟩ := unroll m hm
      exact ⟨m', hm', run m' hm'⟩
    | brk | ret w =>
      refine ⟨rfl, σ2, fun m hm => ?_, rel2⟩
      obtain ⟨m', rfl, hm'⟩ := unroll m hm
      exact run m' hm'

variable (sem env F P cf fsF) in
def SAll (fuel : Nat) : Prop :=
  ∀ ⦃s : PV.Src.Stmt V⦄ ⦃fs fs1 : FS⦄ ⦃code : List (CStmt V)⦄ ⦃st : PV.Src.State V⦄ ⦃σ : SSt V⦄,
    FlatS cf fs s fs1 code → WF fs → Step fs1 fsF → Rel fsF st σ →
    Post sem env F fsF fuel (seqAll code) (PV.Src.execStmt sem env P fuel [] st s) σ

variable (sem env F P cf fsF) in
def BAll (fuel : Nat) : Prop :=
  ∀ ⦃ss : List (PV.Src.Stmt V)⦄ ⦃fs fs1 : FS⦄ ⦃code : List (CStmt V)⦄ ⦃st : PV.Src.State V⦄ ⦃σ : SSt V⦄,
    FlatB cf fs ss fs1 code → WF fs → Step fs1 fsF → Rel fsF st σ →
    Post sem env F fsF fuel (seqAll code) (PV.Src.execBlock sem env P fuel [] st ss) σ

variable (sem env F P cf fsF) in
def WAll (fuel : Nat) : Prop :=
  ∀ ⦃c : PV.Src.Expr V⦄ ⦃body : List (PV.Src.Stmt V)⦄ ⦃fs fsa fsb : FS⦄ ⦃cnd neg : String⦄ ⦃os : List (Opnd Reg V)⦄ ⦃cb : List (CStmt V)⦄
    ⦃st : PV.Src.State V⦄ ⦃σ : SSt V⦄,
    FlatTest cf fs c fsa [] cnd neg os → FlatB cf fsa body fsb cb → WF fs → Step fsb fsF → Rel fsF st σ →
    Post sem env F fsF fuel (PV.Core.Stmt.while cnd neg os (seqAll cb)) (PV.Src.execWhile sem env P fuel [] st c body) σ

variable (sem env F P cf fsF) in
def LAll (fuel : Nat) : Prop :=
  ∀ ⦃v : V⦄ ⦃body : List (PV.Src.Stmt V)⦄ ⦃fs fsb : FS⦄ ⦃cb : List (CStmt V)⦄ ⦃st : PV.Src.State V⦄ ⦃σ : SSt V⦄,
    cf.isOne v = true → FlatB cf fs body fsb cb → WF fs → Step fsb fsF → Rel fsF st σ →
    Post sem env F fsF fuel (PV.Core.Stmt.loop (seqAll cb)) (PV.Src.execWhile sem env P fuel [] st (.num v) body) σ

theorem ball_nil {fuel : Nat} {st : PV.Src.State V} {σ : SSt V} (hrel : Rel fsF st σ) :
    Post sem env F fsF fuel (seqAll []) (PV.Src.execBlock sem env P fuel [] st []) σ := by
  simp only [PV.Src.execBlock]
  exact ⟨rfl, σ, fun m _ => PV.Core.exec_skip .., hrel⟩

theorem ball_of {fuel : Nat} (hS : SAll sem env F P cf fsF fuel) (hB : BAll sem env F P cf fsF fuel) :
    BAll sem env F P cf fsF (fuel + 1) := by
  intro ss fs fs1 code st σ hf hwf hF hrel
  cases hf with
  | nil => exact ball_nil hrel
  | cons ha hb =>
    have h1 := hS ha hwf (hb.ext.step.trans hF) hrel
    simp only [PV.Src.execBlock]
    split
    · rename_i s1 l1 hes
      obtain ⟨rfl, σ1, run1, rel1⟩ := h1.of_eq hes
      exact Post.after (Nat.le_succ _) run1 (hB hb (ha.ext.wf hwf) hF rel1)
    · rename_i hne
      exact (Post.exits hne h1).mono

theorem wall_of (hok : SemOk sem cf) {fuel : Nat} (hB : BAll sem env F P cf fsF fuel) (hW : WAll sem env F P cf fsF fuel) :
    WAll sem env F P cf fsF (fuel + 1) := by
  intro c body fs fsa fsb cnd neg os cb st σ hf hb hwf hF hrel
  rcases test_all sem env F P cf fsF hok fuel hf hwf (hb.ext.step.trans hF) hrel with ⟨err | vc, he, p⟩
  · simp only [PV.Src.execWhile, he]; exact Post.stop hrel
  obtain ⟨σ1, o1, hc⟩ := p vc rfl
  cases o1.eq_of_nil
  by_cases ht : sem.truthy vc = true
  · exact post_while he ht (fun n => by rw [PV.Core.exec_while_succ, hc, ht, if_pos rfl])
      (hB hb (hf.ext.wf hwf) hF hrel) (fun s2 σ2 rel2 => hW hf hb hwf hF rel2)
  · simp only [PV.Src.execWhile, he, PV.Src.truthy, ht]
    refine ⟨rfl, σ, fun m hm => ?_, hrel⟩
    obtain ⟨m', rfl⟩ : ∃ m', m = m' + 1 := ⟨m - 1, by omega⟩
    rw [PV.Core.exec_while_succ, hc, if_neg ht]; rfl

theorem lall_of (hok : SemOk sem cf) {fuel : Nat} (hB : BAll sem env F P cf fsF fuel) (hL : LAll sem env F P cf fsF fuel) :
    LAll sem env F P cf fsF (fuel + 1) := by
  intro v body fs fsb cb st σ hone hb hwf hF hrel
  cases fuel with
  | zero => simp only [PV.Src.execWhile, PV.Src.evalExpr]; exact Post.stop hrel
  | succ k =>
    exact post_while (by simp only [PV.Src.evalExpr]) (hok.one v hone) (fun n => PV.Core.exec_loop_succ ..)
      (hB hb hwf hF hrel) (fun s2 σ2 rel2 => hL hone hb hwf hF rel2)

theorem sall_of (hok : SemOk sem cf) (hwfF : WF fsF) {fuel : Nat} (hB : BAll sem env F P cf fsF fuel)
    (hW : WAll sem env F P cf fsF fuel) (hL : LAll sem env F P cf fsF fuel) :
    SAll sem env F P cf fsF (fuel + 1) := by
  have hE := (expr_all sem env F P cf fsF hok fuel).1
  have hA := (expr_all sem env F P cf fsF hok fuel).2
  intro s fs fs1 code st σ hf hwf hF hrel
  cases hf with
  | assignLit ha =>
    rcases hE ha (wf_regOf _ _ hwf) hF hrel with ⟨err | v, he, p⟩ <;> simp only [PV.Src.execStmt, he]
    · exact Post.stop hrel
    obtain ⟨σ1, o1, v1⟩ := p v rfl
    refine Post.instr o1 (fun m => PV.Core.exec_alu ..) (rel_assign hwfF hrel (hF.2.1 _ _ (ha.ext.step.2.1 _ _ (regOf_lookup ..))) ?_
      (fun y r hy hne => ?_) o1.mem o1.trace)
    · show upd _ _ _ _ = v
      rw [upd_same, PV.Core.evalArgs, List.map_cons, List.map_nil, hok.move]; exact v1
    · exact (upd_ne _ _ hne).trans (o1.var y r hy (fun e => hne (Option.some.inj e).symm))
  | assign ha =>
    rcases hE ha (wf_regOf _ _ hwf) hF hrel with ⟨err | v, he, p⟩ <;> simp only [PV.Src.execStmt, he]
    · exact Post.stop hrel
    obtain ⟨σ1, o1, v1⟩ := p v rfl
    exact ⟨rfl, σ1, fun m _ => o1.run m, rel_assign hwfF hrel (hF.2.1 _ _ (ha.ext.step.2.1 _ _ (regOf_lookup ..))) v1
      (fun y r hy hne => o1.var y r hy (fun e => hne (Option.some.inj e).symm)) o1.mem o1.trace⟩
  | write ha =>
    rcases hA ha hwf hF hrel with ⟨err | vs, he, p⟩ <;> simp only [PV.Src.execStmt, he]
    · exact Post.stop hrel
    obtain ⟨σ1, o1, v1⟩ := p vs rfl
    exact Post.effect o1 (fun m => by rw [PV.Core.exec_store, v1]) hrel
  | sput ha hv =>
    have sa := ha.ext
    rcases hE ha hwf (hv.ext.step.trans hF) hrel with ⟨err | va, e1, p1⟩ <;> simp only [PV.Src.execStmt, e1]
    · exact Post.stop hrel
    obtain ⟨σ1, o1, v1⟩ := p1 va rfl
    rcases hE hv (sa.wf hwf) hF (rel_frame hrel o1) with ⟨err | vv, e2, p2⟩ <;> simp only [e2]
    · exact Post.stop hrel
    obtain ⟨σ2, o2, v2⟩ := p2 vv rfl
    have o12 := o1.append o2 sa.le
    have rel2 := rel_frame hrel o12
    have hoa := (o2.keeps (ha.tmp_lt hwf)).trans v1
    cases hn : sem.toAddr va with
    | none => exact Post.stop hrel
    | some n =>
      by_cases hlt : n < stackSize
      · simp only [hlt, if_true]
        refine Post.instr (σ2 := { σ2 with mem := updMem σ2.mem n vv }) o12
          (fun m => by rw [PV.Core.exec_putm (hoa.symm ▸ hn) hlt, v2]) ⟨rel2.vars, fun k => ?_, rel2.trace⟩
        show updMem st.mem n vv k = updMem σ2.mem n vv k
        unfold updMem; rw [rel2.mem k]
      · simp only [hlt, if_false]; exact Post.stop hrel
  | ifThen hc ht =>
    rcases test_all sem env F P cf fsF hok fuel hc hwf (ht.ext.step.trans hF) hrel with ⟨err | vc, he, p⟩ <;>
      simp only [PV.Src.execStmt, he]
    · exact Post.stop hrel
    obtain ⟨σ1, o1, hcnd⟩ := p vc rfl
    have rel1 := rel_frame hrel o1
    by_cases htrue : sem.truthy vc = true
    · simp only [PV.Src.truthy, htrue, if_true]
      exact Post.branch o1 (fun m => by rw [PV.Core.exec_ifThen, hcnd, htrue, if_pos rfl]) (hB ht (hc.ext.wf hwf) hF rel1)
    · simp only [PV.Src.truthy, htrue, if_false, Bool.false_eq_true, PV.Src.execBlock]
      exact Post.instr o1 (fun m => by rw [PV.Core.exec_ifThen, hcnd, if_neg htrue]) rel1
  | ite hc ht he =>
    have hFb := he.ext.step.trans hF
    rcases test_all sem env F P cf fsF hok fuel hc hwf (ht.ext.step.trans hFb) hrel with ⟨err | vc, hev, p⟩ <;>
      simp only [PV.Src.execStmt, hev]
    · exact Post.stop hrel
    obtain ⟨σ1, o1, hcnd⟩ := p vc rfl
    have rel1 := rel_frame hrel o1
    by_cases htrue : sem.truthy vc = true
    · simp only [PV.Src.truthy, htrue, if_true]
      exact Post.branch o1 (fun m => by rw [PV.Core.exec_ite, hcnd, htrue, if_pos rfl]) (hB ht (hc.ext.wf hwf) hFb rel1)
    · simp only [PV.Src.truthy, htrue, if_false, Bool.false_eq_true]
      exact Post.branch o1 (fun m => by rw [PV.Core.exec_ite, hcnd, if_neg htrue]) (hB he (ht.ext.wf (hc.ext.wf hwf)) hF rel1)
  | loop hone hb =>
    simp only [PV.Src.execStmt]
    exact (hL hone hb hwf hF hrel).mono
  | «while» hc hb =>
    simp only [PV.Src.execStmt]
    exact (hW hc hb hwf hF hrel).mono
  | brk =>
    simp only [PV.Src.execStmt]
    exact ⟨rfl, σ, fun m _ => PV.Core.exec_brk .., hrel⟩
  | cont =>
    simp only [PV.Src.execStmt]
    exact ⟨rfl, σ, fun m _ => PV.Core.exec_cont .., hrel⟩
  | pass =>
    simp only [PV.Src.execStmt]
    exact ⟨rfl, σ, fun m _ => PV.Core.exec_skip .., hrel⟩
  | yield =>
    simp only [PV.Src.execStmt]
    exact Post.effect (fs := fs) EOut.nil (fun m => PV.Core.exec_yield ..) hrel
  | sleep ha =>
    rcases hE ha hwf hF hrel with ⟨err | v, he, p⟩ <;> simp only [PV.Src.execStmt, he]
    · exact Post.stop hrel
    obtain ⟨σ1, o1, v1⟩ := p v rfl
    exact Post.effect o1 (fun m => by rw [PV.Core.exec_sleep, v1]) hrel

end

section
variable (sem : Sem V) (env : Env V) (F : Nat → CStmt V) (P : PV.Src.Program V) (cf : Cfg V) (fsF : FS) (once : List String)

/-- every statement form against every outcome of the reference semantics; `hwfF` is needed by assignments only (`rel_assign`) -/
theorem stmt_all (hok : SemOk sem cf) (hwfF : WF fsF) : ∀ fuel,
    SAll sem env F P cf fsF fuel ∧ BAll sem env F P cf fsF fuel ∧ WAll sem env F P cf fsF fuel ∧ LAll sem env F P cf fsF fuel := by
  intro fuel
  induction fuel with
  | zero =>
    refine ⟨fun s fs fs1 code st σ hf hwf hF hrel => ?_, fun ss fs fs1 code st σ hf hwf hF hrel => ?_,
      fun c body fs fsa fsb cnd neg os cb st σ hf hb hwf hF hrel => ?_, fun v body fs fsb cb st σ hone hb hwf hF hrel => ?_⟩
    · simp only [PV.Src.execStmt]; exact Post.stop hrel
    · cases hf with
      | nil => exact ball_nil hrel
      | cons ha hb => simp only [PV.Src.execBlock]; exact Post.stop hrel
    · simp only [PV.Src.execWhile]; exact Post.stop hrel
    · simp only [PV.Src.execWhile]; exact Post.stop hrel
  | succ fuel ih =>
    exact ⟨sall_of hok hwfF ih.2.1 ih.2.2.1 ih.2.2.2, ball_of ih.1 ih.2.1, wall_of hok ih.2.1 ih.2.2.1, lall_of hok ih.2.1 ih.2.2.2⟩

/-- **tests**: the operand code of a test ends in a state where the emitted condition is the truth value of the test -/
theorem sound_test (hok : SemOk sem cf) (fuel : Nat) (c : PV.Src.Expr V) (truth : Bool) (fs fs1 : FS) (pre : List (CStmt V)) (cnd neg : String)
    (os : List (Opnd Reg V)) (st st' : PV.Src.State V) (v : V) (σ : SSt V)
    (hf : flatTest cf truth fs c = some (fs1, pre, cnd, neg, os)) (he : PV.Src.evalExpr sem env P fuel [] st c = (st', .ok v))
    (hwf : WF fs) (hF : Step fs1 fsF) (hrel : Rel fsF st σ) :
    st' = st ∧ ∃ σ', EOut sem env F fsF fs none pre σ σ' ∧ sem.cond cnd (PV.Core.evalArgs σ'.regs os) = sem.truthy v :=
  (test_all sem env F P cf fsF hok fuel (flatTest_rel hf) hwf hF hrel).of_ok he

def SSound (fuel : Nat) : Prop :=
  ∀ (s : PV.Src.Stmt V) (fs fs1 : FS) (code : List (CStmt V)) (st st' : PV.Src.State V) (loc' : PV.Src.Store V) (sig : PV.Src.Signal V) (σ : SSt V),
    flatS cf once fs s = some (fs1, code) → PV.Src.execStmt sem env P fuel [] st s = (st', .ok (loc', sig)) →
    WF fs → Step fs1 fsF → Rel fsF st σ → SOut sem env F fsF fuel (seqAll code) st' loc' sig σ

def BSound (fuel : Nat) : Prop :=
  ∀ (ss : List (PV.Src.Stmt V)) (fs fs1 : FS) (code : List (CStmt V)) (st st' : PV.Src.State V) (loc' : PV.Src.Store V) (sig : PV.Src.Signal V) (σ : SSt V),
    flatB cf once fs ss = some (fs1, code) → PV.Src.execBlock sem env P fuel [] st ss = (st', .ok (loc', sig)) →
    WF fs → Step fs1 fsF → Rel fsF st σ → SOut sem env F fsF fuel (seqAll code) st' loc' sig σ

def WSound (fuel : Nat) : Prop :=
  ∀ (c : PV.Src.Expr V) (body : List (PV.Src.Stmt V)) (fs fsa fsb : FS) (cnd neg : String) (os : List (Opnd Reg V)) (cb : List (CStmt V))
    (st st' : PV.Src.State V) (loc' : PV.Src.Store V) (sig : PV.Src.Signal V) (σ : SSt V),
    flatTest cf false fs c = some (fsa, [], cnd, neg, os) → flatB cf once fsa body = some (fsb, cb) →
    PV.Src.execWhile sem env P fuel [] st c body = (st', .ok (loc', sig)) →
    WF fs → Step fsb fsF → Rel fsF st σ → SOut sem env F fsF fuel (PV.Core.Stmt.while cnd neg os (seqAll cb)) st' loc' sig σ

def LSound (fuel : Nat) : Prop :=
  ∀ (v : V) (body : List (PV.Src.Stmt V)) (fs fsb : FS) (cb : List (CStmt V))
    (st st' : PV.Src.State V) (loc' : PV.Src.Store V) (sig : PV.Src.Signal V) (σ : SSt V),
    cf.isOne v = true → flatB cf once fs body = some (fsb, cb) →
    PV.Src.execWhile sem env P fuel [] st (.num v) body = (st', .ok (loc', sig)) →
    WF fs → Step fsb fsF → Rel fsF st σ → SOut sem env F fsF fuel (PV.Core.Stmt.loop (seqAll cb)) st' loc' sig σ

/-- **statements, blocks and loops**: a run that ends -/
theorem sound_stmt (hok : SemOk sem cf) (hwfF : WF fsF) : ∀ fuel,
    SSound sem env F P cf fsF once fuel ∧ BSound sem env F P cf fsF once fuel ∧ WSound sem env F P cf fsF once fuel ∧ LSound sem env F P cf fsF once fuel := by
  intro fuel
  obtain ⟨hS, hB, hW, hL⟩ := stmt_all sem env F P cf fsF hok hwfF fuel
  refine ⟨fun s fs fs1 code st st' loc' sig σ hf he hwf hF hrel => ?_, fun ss fs fs1 code st st' loc' sig σ hf he hwf hF hrel => ?_,
    fun c body fs fsa fsb cnd neg os cb st st' loc' sig σ hf hb he hwf hF hrel => ?_,
    fun v body fs fsb cb st st' loc' sig σ hone hb he hwf hF hrel => ?_⟩
  · exact (hS (flatS_rel hf) hwf hF hrel).of_eq he
  · exact (hB (flatB_rel hf) hwf hF hrel).of_eq he
  · exact (hW (flatTest_rel hf) (flatB_rel hb) hwf hF hrel).of_eq he
  · exact (hL hone (flatB_rel hb) hwf hF hrel).of_eq he

def SFuel (fuel : Nat) : Prop :=
  ∀ (s : PV.Src.Stmt V) (fs fs1 : FS) (code : List (CStmt V)) (st st' : PV.Src.State V) (σ : SSt V),
    flatS cf once fs s = some (fs1, code) → PV.Src.execStmt sem env P fuel [] st s = (st', .error .fuel) →
    WF fs → Step fs1 fsF → Rel fsF st σ → FOut sem env F fuel (seqAll code) st' σ

def BFuel (fuel : Nat) : Prop :=
  ∀ (ss : List (PV.Src.Stmt V)) (fs fs1 : FS) (code : List (CStmt V)) (st st' : PV.Src.State V) (σ : SSt V),
    flatB cf once fs ss = some (fs1, code) → PV.Src.execBlock sem env P fuel [] st ss = (st', .error .fuel) →
    WF fs → Step fs1 fsF → Rel fsF st σ → FOut sem env F fuel (seqAll code) st' σ

def WFuel (fuel : Nat) : Prop :=
  ∀ (c : PV.Src.Expr V) (body : List (PV.Src.Stmt V)) (fs fsa fsb : FS) (cnd neg : String) (os : List (Opnd Reg V)) (cb : List (CStmt V))
    (st st' : PV.Src.State V) (σ : SSt V),
    flatTest cf false fs c = some (fsa, [], cnd, neg, os) → flatB cf once fsa body = some (fsb, cb) →
    PV.Src.execWhile sem env P fuel [] st c body = (st', .error .fuel) →
    WF fs → Step fsb fsF → Rel fsF st σ → FOut sem env F fuel (PV.Core.Stmt.while cnd neg os (seqAll cb)) st' σ

def LFuel (fuel : Nat) : Prop :=
  ∀ (v : V) (body : List (PV.Src.Stmt V)) (fs fsb : FS) (cb : List (CStmt V)) (st st' : PV.Src.State V) (σ : SSt V),
    cf.isOne v = true → flatB cf once fs body = some (fsb, cb) →
    PV.Src.execWhile sem env P fuel [] st (.num v) body = (st', .error .fuel) →
    WF fs → Step fsb fsF → Rel fsF st σ → FOut sem env F fuel (PV.Core.Stmt.loop (seqAll cb)) st' σ

/-- **out of fuel**: statements, blocks and loops -/
theorem fuel_stmt (hok : SemOk sem cf) (hwfF : WF fsF) : ∀ fuel,
    SFuel sem env F P cf fsF once fuel ∧ BFuel sem env F P cf fsF once fuel ∧ WFuel sem env F P cf fsF once fuel ∧ LFuel sem env F P cf fsF once fuel := by
  intro fuel
  obtain ⟨hS, hB, hW, hL⟩ := stmt_all sem env F P cf fsF hok hwfF fuel
  refine ⟨fun s fs fs1 code st st' σ hf he hwf hF hrel => ?_, fun ss fs fs1 code st st' σ hf he hwf hF hrel => ?_,
    fun c body fs fsa fsb cnd neg os cb st st' σ hf hb he hwf hF hrel => ?_,
    fun v body fs fsb cb st st' σ hone hb he hwf hF hrel => ?_⟩
  · exact (hS (flatS_rel hf) hwf hF hrel).of_eq he
  · exact (hB (flatB_rel hf) hwf hF hrel).of_eq he
  · exact (hW (flatTest_rel hf) (flatB_rel hb) hwf hF hrel).of_eq he
  · exact (hL hone (flatB_rel hb) hwf hF hrel).of_eq he

end

/-- the whole program against every outcome of the reference semantics; `front_sound` and `front_prefix` are read off it -/
theorem front_all (sem : Sem V) (env : Env V) (F : Nat → CStmt V) (cf : Cfg V) (hok : SemOk sem cf) (p : PV.Src.Program V) (s : CStmt V)
    (hflat : flatten cf p = some s) (fuel : Nat) (zero : V) (σ0 : SSt V) (hmem : ∀ n, σ0.mem n = zero) (htr : σ0.trace = []) :
    ∃ fsF, Post sem env F fsF fuel s
      (PV.Src.execBlock sem env p fuel [] { globals := [], mem := fun _ => zero, sp := 0, trace := [] } p.main) σ0 := by
  unfold flatten at hflat
  split at hflat
  · cases hflat
  · dsimp only at hflat
    split at hflat
    · cases hflat
    · rename_i fsF code hb
      cases hflat
      exact ⟨fsF, (stmt_all sem env F p cf fsF hok ((flatB_rel hb).ext.wf wf_empty) fuel).2.1 (flatB_rel hb) wf_empty (Step.refl fsF)
        ⟨fun x v h => by simp [PV.Src.Store.get] at h, fun n => (hmem n).symm, htr.symm⟩⟩

/-- **the front end is correct on its fragment**: if the reference semantics runs the main code of a function-free program to the
    end (with signal `sig`, state `st'`), the flattened program ends with the corresponding exit in a core state with the same
    effect trace and the same own-stack memory — for every environment and every fuel at least the source's -/
theorem front_sound (sem : Sem V) (env : Env V) (F : Nat → CStmt V) (cf : Cfg V) (hok : SemOk sem cf) (p : PV.Src.Program V) (s : CStmt V)
    (hflat : flatten cf p = some s) (fuel : Nat) (zero : V) (st' : PV.Src.State V) (loc' : PV.Src.Store V) (sig : PV.Src.Signal V)
    (hrun : PV.Src.execBlock sem env p fuel [] { globals := [], mem := fun _ => zero, sp := 0, trace := [] } p.main = (st', .ok (loc', sig)))
    (σ0 : SSt V) (hmem : ∀ n, σ0.mem n = zero) (htr : σ0.trace = []) :
    ∃ σ', (∀ m, fuel ≤ m → PV.Core.exec sem env F m s σ0 = .ok (exitOf sig) σ') ∧ σ'.trace = st'.trace ∧ ∀ n, σ'.mem n = st'.mem n := by
  obtain ⟨fsF, h⟩ := front_all sem env F cf hok p s hflat fuel zero σ0 hmem htr
  obtain ⟨_, σ', run, rel⟩ := h.of_eq hrun
  exact ⟨σ', run, rel.trace.symm, fun n => (rel.mem n).symm⟩

/-- **programs that keep running**: when the reference semantics runs out of fuel in state `st'`, the flattened program, given at
    least as much fuel, has performed at least the effects of `st'` (or has left the compared domain: `stuck`) -/
theorem front_prefix (sem : Sem V) (env : Env V) (F : Nat → CStmt V) (cf : Cfg V) (hok : SemOk sem cf) (p : PV.Src.Program V) (s : CStmt V)
    (hflat : flatten cf p = some s) (fuel : Nat) (zero : V) (st' : PV.Src.State V)
    (hrun : PV.Src.execBlock sem env p fuel [] { globals := [], mem := fun _ => zero, sp := 0, trace := [] } p.main = (st', .error .fuel))
    (σ0 : SSt V) (hmem : ∀ n, σ0.mem n = zero) (htr : σ0.trace = []) :
    ∀ m, fuel ≤ m → Grow st'.trace (PV.Core.exec sem env F m s σ0) := by
  obtain ⟨fsF, h⟩ := front_all sem env F cf hok p s hflat fuel zero σ0 hmem htr
  exact h.of_eq hrun

end PV.Front

import PV.Model.Pragma
namespace PV.Pragma
open PV.PyStr

/-- the value of option `n` after the directives `ds`, starting from `b`: the last directive that names `n` decides -/
def final (ds : List (Name × Bool)) (n : Name) (b : Bool) : Bool :=
  ds.foldl (fun acc d => if d.1 = n then d.2 else acc) b

theorem final_cons (d : Name × Bool) (ds : List (Name × Bool)) (n : Name) (b : Bool) :
    final (d :: ds) n b = final ds n (if d.1 = n then d.2 else b) := rfl

theorem setOpt_eq_map (o : Opts) (name : Name) (v : Bool) :
    setOpt o name v = o.map (fun p => (p.1, if name = p.1 then v else p.2)) := by
  unfold setOpt
  apply List.map_congr_left
  intro ⟨n, b⟩ _
  by_cases h : n = name
  · simp [h]
  · simp [h, Ne.symm h]

theorem applyAll_eq_map (ds : List (Name × Bool)) (o : Opts) :
    applyAll ds o = o.map (fun p => (p.1, final ds p.1 p.2)) := by
  induction ds generalizing o with
  | nil => exact (List.map_id' o).symm
  | cons d ds ih =>
    show applyAll ds (setOpt o d.1 d.2) = _
    rw [ih, setOpt_eq_map, List.map_map]
    rfl

theorem final_none (ds : List (Name × Bool)) (n : Name) (b : Bool)
    (h : ∀ d ∈ ds, d.1 ≠ n) : final ds n b = b := by
  induction ds with
  | nil => rfl
  | cons d ds ih =>
    rw [final_cons, if_neg (h d (List.mem_cons_self ..))]
    exact ih fun x hx => h x (List.mem_cons_of_mem _ hx)

theorem final_append (ds es : List (Name × Bool)) (n : Name) (b : Bool) :
    final (ds ++ es) n b = final es n (final ds n b) :=
  List.foldl_append

theorem final_last (ds es : List (Name × Bool)) (n : Name) (v b : Bool)
    (h : ∀ d ∈ es, d.1 ≠ n) : final (ds ++ (n, v) :: es) n b = v := by
  rw [final_append, final_cons, if_pos rfl]
  exact final_none es n v h

theorem final_idem (ds : List (Name × Bool)) (n : Name) (b : Bool) :
    final ds n (final ds n b) = final ds n b := by
  induction ds generalizing b with
  | nil => rfl
  | cons d ds ih =>
    rw [final_cons, final_cons]
    split
    · rfl
    · exact ih b

theorem lookup_map (o : Opts) (f : Name → Bool → Bool) (n : Name) :
    lookup (o.map (fun p => (p.1, f p.1 p.2))) n = (lookup o n).map (f n) := by
  induction o with
  | nil => simp [lookup]
  | cons p o ih =>
    unfold lookup at ih ⊢
    by_cases h : p.1 = n
    · simp [h]
    · simp only [List.map_cons, List.find?_cons, h, decide_false]
      exact ih

theorem strip_head (l : List Char) : (strip l).head? = (lstrip l).head? := by
  unfold strip
  cases h : lstrip l with
  | nil => rfl
  | cons c cs =>
    -- the first character left by `lstrip` is not a space, so stripping from the right stops at it at the latest
    have hc : isSpace c = false := by
      have := List.head?_dropWhile_not isSpace l
      rwa [show l.dropWhile isSpace = c :: cs from h] at this
    rw [rstrip, List.head?_reverse, List.reverse_cons, List.dropWhile_append]
    split <;> simp [hc]

theorem startsWith_singleton_iff (l : List Char) (c : Char) : startsWith l [c] = true ↔ l.head? = some c := by
  cases l with
  | nil => simp [startsWith]
  | cons c cs =>
    simp only [startsWith, List.isPrefixOf, Bool.and_true, beq_iff_eq, List.head?_cons,
      Option.some.injEq]
    exact eq_comm

end PV.Pragma

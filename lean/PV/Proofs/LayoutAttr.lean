import Lean.Meta.Tactic.Simp.RegisterCommand

/-- the lemmas that turn `CodeAt P base c`, for a list `c` built with `++` and `::` from compiled blocks, into one fact per line and
    per block (`PV/Proofs/CoreComp.lean`) -/
register_simp_attr layout

import PV.IC10.Machine
/-!
What proofs about the machine go through instead of unfolding `step`, `applyOut`, `writeBack` or `exec`, for every register
type `R` and value type `V`.
-/
namespace PV.IC10

section
variable {R V : Type} [DecidableEq R]

@[simp] theorem upd_same (f : R → V) (r : R) (v : V) : upd f r v r = v := by simp [upd]
@[simp] theorem upd_ne (f : R → V) {r x : R} (v : V) (h : x ≠ r) : upd f r v x = f x := by simp [upd, h]
@[simp] theorem updMem_same (m : Nat → V) (a : Nat) (v : V) : updMem m a v a = v := by simp [updMem]
@[simp] theorem updMem_ne {m : Nat → V} {a x : Nat} {v : V} (h : x ≠ a) : updMem m a v x = m x := by simp [updMem, h]

@[simp] theorem updOpt_none (f : R → V) (r : R) : updOpt f r none = f := rfl
@[simp] theorem updOpt_some (f : R → V) (r : R) (v : V) : updOpt f r (some v) = upd f r v := rfl
theorem updOpt_ne {f : R → V} {r x : R} {ov : Option V} (h : x ≠ r) : updOpt f r ov x = f x := by
  cases ov <;> simp [h]

end

section
variable {R V : Type} [DecidableEq R] [Special R]

/-- `writeBack` is three optional writes, so a fact about it is a fact about one `updOpt`, used three times -/
theorem writeBack_some (f : R → V) (d : R) (o : Out V) :
    writeBack f (some d) o = updOpt (updOpt (updOpt f Special.sp o.sp) Special.ra o.ra) d o.dst := by
  unfold writeBack; cases o.dst <;> rfl

theorem writeBack_none (f : R → V) (o : Out V) :
    writeBack f none o = updOpt (updOpt f Special.sp o.sp) Special.ra o.ra := rfl

theorem writeBack_frame (f : R → V) (dst : Option R) (o : Out V) (x : R) (hs : o.sp = none ∨ x ≠ Special.sp)
    (hr : o.ra = none ∨ x ≠ Special.ra) (hd : o.dst = none ∨ dst ≠ some x) : writeBack f dst o x = f x := by
  have one : ∀ {g : R → V} {r : R} {ov : Option V}, ov = none ∨ x ≠ r → updOpt g r ov x = g x := by
    rintro g r ov (rfl | h)
    · rfl
    · exact updOpt_ne h
  cases dst with
  | none => rw [writeBack_none, one hr, one hs]
  | some d => rw [writeBack_some, one (hd.imp id fun h e => h (e ▸ rfl)), one hr, one hs]

theorem writeBack_nothing {f : R → V} {dst : Option R} {o : Out V} (hd : o.dst = none) (hs : o.sp = none) (hr : o.ra = none) :
    writeBack f dst o = f :=
  funext fun x => writeBack_frame f dst o x (.inl hs) (.inl hr) (.inl hd)

@[simp] def Next.pcAfter (pc : Nat) : Next → Nat
  | .seq => pc + 1
  | .jump n => n
  | _ => pc

@[simp] def Next.stops : Next → Bool
  | .seq | .jump _ => false
  | _ => true

@[simp] def Next.faultEff : Next → List (Eff V)
  | .fault why => [⟨"fault:" ++ why, []⟩]
  | _ => []

@[simp] def updMemOpt (m : Nat → V) : Option (Nat × V) → Nat → V
  | some (a, v) => updMem m a v
  | none => m

theorem applyOut_eq (s : St R V) (dst : Option R) (o : Out V) :
    applyOut s dst o =
      { regs := writeBack s.regs dst o, mem := updMemOpt s.mem o.mem, pc := o.next.pcAfter s.pc,
        trace := o.next.faultEff ++ (o.effs ++ s.trace), halted := o.next.stops } := by
  unfold applyOut updMemOpt; cases o.next <;> rfl

variable {sem : Sem V} {env : Env V} {P : List (Instr R V)}

theorem step_halted {s : St R V} (hh : s.halted = true) : step sem env P s = s := by simp [step, hh]

theorem step_none {s : St R V} (hh : s.halted = false) (hi : P[s.pc]? = none) :
    step sem env P s = { s with halted := true } := by simp [step, hh, hi]

theorem step_end {s : St R V} (hh : s.halted = false) (hpc : P.length ≤ s.pc) :
    step sem env P s = { s with halted := true } :=
  step_none hh (List.getElem?_eq_none_iff.mpr hpc)

theorem step_eq {s : St R V} {i : Instr R V} (hh : s.halted = false) (hi : P[s.pc]? = some i) :
    step sem env P s =
      applyOut s i.dst (exec sem env i.kind (i.args.map (Opnd.eval s.regs)) (s.regs Special.sp) s.pc s.mem s.trace) := by
  simp [step, hh, hi]

theorem run_succ (n : Nat) (s : St R V) : run sem env P (n + 1) s = run sem env P n (step sem env P s) := rfl

theorem run_add (a b : Nat) (s : St R V) : run sem env P (a + b) s = run sem env P b (run sem env P a s) := by
  induction a generalizing s with
  | zero => simp [run]
  | succ n ih => rw [Nat.succ_add]; exact ih _

theorem run_halted {s : St R V} (hh : s.halted = true) (n : Nat) : run sem env P n s = s := by
  induction n with
  | zero => rfl
  | succ n ih => rw [run_succ, step_halted hh, ih]

theorem run_end {s : St R V} (hh : s.halted = false) (hpc : P.length ≤ s.pc) (n : Nat) :
    run sem env P (n + 1) s = { s with halted := true } := by
  rw [run_succ, step_end hh hpc, run_halted rfl]

end

section
variable {V : Type} {sem : Sem V}

theorem target_eq_jump {v : V} {n : Nat} : target sem v = .jump n ↔ sem.toAddr v = some n := by
  unfold target; cases sem.toAddr v <;> simp

theorem target_ne_seq (v : V) : target sem v ≠ .seq := by
  unfold target; cases sem.toAddr v <;> simp

variable {env : Env V} {k : Kind} {vals : List V} {spv : V} {pc : Nat} {mem : Nat → V} {tr : List (Eff V)}

/-! Never put `exec` itself into a simp set or a `rw`: Lean generates the equation lemmas of its 18-arm match anew in every
    declaration that does, which costs more than the rest of a typical proof here (`unfold exec` does not, and is what the
    stack instructions are opened with). -/

@[simp] theorem exec_alu (op : String) : exec sem env (.alu op) vals spv pc mem tr = { dst := some (sem.alu op vals) } := rfl
@[simp] theorem exec_load (q : String) : exec sem env (.load q) vals spv pc mem tr = { dst := some (env tr q vals) } := rfl
@[simp] theorem exec_store (q : String) : exec sem env (.store q) vals spv pc mem tr = { effs := [⟨q, vals⟩] } := rfl
@[simp] theorem exec_br (c : String) : exec sem env (.br c) vals spv pc mem tr =
    if sem.cond c vals.dropLast then { next := target sem (vals.getLastD (sem.ofNat 0)) } else {} := rfl
@[simp] theorem exec_brr (c : String) : exec sem env (.brr c) vals spv pc mem tr =
    if sem.cond c vals.dropLast then { next := target sem (sem.alu "add" [sem.ofNat pc, vals.getLastD (sem.ofNat 0)]) } else {} := rfl
@[simp] theorem exec_brq (q : String) (neg : Bool) : exec sem env (.brq q neg) vals spv pc mem tr =
    if (sem.truthy (env tr q vals.dropLast)) != neg then { next := target sem (vals.getLastD (sem.ofNat 0)) } else {} := rfl
@[simp] theorem exec_jmp : exec sem env .jmp vals spv pc mem tr = { next := target sem (vals.headD (sem.ofNat 0)) } := rfl
@[simp] theorem exec_jal : exec sem env .jal vals spv pc mem tr =
    { ra := some (sem.ofNat (pc + 1)), next := target sem (vals.headD (sem.ofNat 0)) } := rfl
@[simp] theorem exec_yield : exec sem env .yield vals spv pc mem tr = { effs := [⟨"yield", []⟩] } := rfl
@[simp] theorem exec_sleep : exec sem env .sleep vals spv pc mem tr = { effs := [⟨"sleep", vals⟩] } := rfl
@[simp] theorem exec_hcf : exec sem env .hcf vals spv pc mem tr = { effs := [⟨"hcf", []⟩], next := .halt } := rfl
@[simp] theorem exec_nop : exec sem env .nop vals spv pc mem tr = {} := rfl
@[simp] theorem exec_bad (why : String) : exec sem env (.bad why) vals spv pc mem tr = { next := .fault why } := rfl

theorem exec_push : exec sem env .push vals spv pc mem tr =
    match sem.toAddr spv with
    | some a =>
      if a < stackSize then { mem := some (a, vals.headD (sem.ofNat 0)), sp := some (sem.ofNat (a + 1)) }
      else { next := .fault "stack-overflow" }
    | none => { next := .fault "stack-pointer" } := rfl

theorem exec_pop : exec sem env .pop vals spv pc mem tr =
    match sem.toAddr spv with
    | some (a + 1) =>
      if a < stackSize then { dst := some (mem a), sp := some (sem.ofNat a) } else { next := .fault "stack-overflow" }
    | _ => { next := .fault "stack-underflow" } := rfl

theorem exec_peek : exec sem env .peek vals spv pc mem tr =
    match sem.toAddr spv with
    | some (a + 1) => if a < stackSize then { dst := some (mem a) } else { next := .fault "stack-overflow" }
    | _ => { next := .fault "stack-underflow" } := rfl

theorem exec_poke {a v : V} : exec sem env .poke [a, v] spv pc mem tr =
    match sem.toAddr a with
    | some n => if n < stackSize then { mem := some (n, v) } else { next := .fault "stack-address" }
    | none => { next := .fault "stack-address" } := rfl

theorem exec_getdb {a : V} : exec sem env .getdb [a] spv pc mem tr =
    match sem.toAddr a with
    | some n => if n < stackSize then { dst := some (mem n) } else { next := .fault "stack-address" }
    | none => { next := .fault "stack-address" } := rfl

section
variable (sem) (env) (vals) (spv) (pc) (mem) (tr)

/-- All arguments explicit: it is instantiated BEFORE `cases k`, where nothing in the goal fixes them yet. -/
theorem exec_stack (k : Kind) (hk : k = .push ∨ k = .pop ∨ k = .peek ∨ k = .poke ∨ k = .getdb) :
    (∃ w, exec sem env k vals spv pc mem tr = { next := .fault w }) ∨
    ((exec sem env k vals spv pc mem tr).next = .seq ∧ (exec sem env k vals spv pc mem tr).ra = none ∧
      ((exec sem env k vals spv pc mem tr).sp.isSome = true ↔ k = .push ∨ k = .pop) ∧
      ((exec sem env k vals spv pc mem tr).dst.isSome = true ↔ k = .pop ∨ k = .peek ∨ k = .getdb)) := by
  cases k
  case push | pop | peek =>
    simp only [exec_push, exec_pop, exec_peek]
    split
    · split <;> simp
    · simp
  case poke | getdb =>
    unfold exec; dsimp only
    split
    · split
      · split <;> simp
      · simp
    · simp
  all_goals simp at hk

end

theorem exec_ra : (exec sem env k vals spv pc mem tr).ra = if k = .jal then some (sem.ofNat (pc + 1)) else none := by
  have stack := exec_stack sem env vals spv pc mem tr k
  cases k
  case br | brr | brq => simp only [exec_br, exec_brr, exec_brq, reduceCtorEq, if_false]; split <;> rfl
  case push | pop | peek | poke | getdb =>
    rcases stack (by simp) with ⟨w, e⟩ | ⟨-, h, -⟩
    · simp [e]
    · simp [h]
  all_goals simp

theorem exec_next_jump {n : Nat} (h : (exec sem env k vals spv pc mem tr).next = .jump n) :
    ((k = .jmp ∨ k = .jal) ∧ sem.toAddr (vals.headD (sem.ofNat 0)) = some n) ∨
    (((∃ c, k = .br c) ∨ ∃ q neg, k = .brq q neg) ∧ sem.toAddr (vals.getLastD (sem.ofNat 0)) = some n) ∨
    ((∃ c, k = .brr c) ∧ sem.toAddr (sem.alu "add" [sem.ofNat pc, vals.getLastD (sem.ofNat 0)]) = some n) := by
  have stack := exec_stack sem env vals spv pc mem tr k
  cases k
  case jmp => exact .inl ⟨.inl rfl, target_eq_jump.mp h⟩
  case jal => exact .inl ⟨.inr rfl, target_eq_jump.mp h⟩
  case br c =>
    rw [exec_br] at h
    split at h
    · exact .inr (.inl ⟨.inl ⟨c, rfl⟩, target_eq_jump.mp h⟩)
    · cases h
  case brq q neg =>
    rw [exec_brq] at h
    split at h
    · exact .inr (.inl ⟨.inr ⟨q, neg, rfl⟩, target_eq_jump.mp h⟩)
    · cases h
  case brr c =>
    rw [exec_brr] at h
    split at h
    · exact .inr (.inr ⟨⟨c, rfl⟩, target_eq_jump.mp h⟩)
    · cases h
  case push | pop | peek | poke | getdb =>
    rcases stack (by simp) with ⟨w, e⟩ | ⟨e, -⟩ <;> rw [e] at h <;> cases h
  all_goals simp at h

theorem exec_next_seq (h : (exec sem env k vals spv pc mem tr).next = .seq) : k ≠ .jmp ∧ k ≠ .jal := by
  constructor <;> rintro rfl <;> exact target_ne_seq _ h

theorem exec_pc_irrel (hk : k ≠ .jal ∧ ∀ c, k ≠ .brr c) (pc' : Nat) :
    exec sem env k vals spv pc' mem tr = exec sem env k vals spv pc mem tr := by
  cases k
  case jal => exact absurd rfl hk.1
  case brr c => exact absurd rfl (hk.2 c)
  all_goals rfl

theorem exec_mem_irrel (hk : k ≠ .pop ∧ k ≠ .peek ∧ k ≠ .getdb) (mem' : Nat → V) :
    exec sem env k vals spv pc mem' tr = exec sem env k vals spv pc mem tr := by
  cases k
  case pop => exact absurd rfl hk.1
  case peek => exact absurd rfl hk.2.1
  case getdb => exact absurd rfl hk.2.2
  all_goals rfl

end

/-! The results are `{ s with … }`, so their `halted` field is `s.halted`, not the literal `false`. -/

section
variable {R V : Type} [DecidableEq R] [Special R] {sem : Sem V} {env : Env V} {P : List (Instr R V)}

theorem step_nop {s : St R V} {i : Instr R V} (hh : s.halted = false) (hi : P[s.pc]? = some i) (hk : i.kind = .nop) :
    step sem env P s = { s with pc := s.pc + 1 } := by
  rw [step_eq hh hi, hk, applyOut_eq, exec_nop]
  rw [writeBack_nothing rfl rfl rfl, hh]
  rfl

theorem step_jmp {s : St R V} {i : Instr R V} {n : Nat} (hh : s.halted = false) (hi : P[s.pc]? = some i) (hk : i.kind = .jmp)
    (ht : sem.toAddr ((i.args.map (Opnd.eval s.regs)).headD (sem.ofNat 0)) = some n) :
    step sem env P s = { s with pc := n } := by
  rw [step_eq hh hi, hk, applyOut_eq, exec_jmp, target_eq_jump.mpr ht]
  rw [writeBack_nothing rfl rfl rfl, hh]
  rfl

theorem step_jal {s : St R V} {i : Instr R V} {n : Nat} (hh : s.halted = false) (hi : P[s.pc]? = some i) (hk : i.kind = .jal)
    (ht : sem.toAddr ((i.args.map (Opnd.eval s.regs)).headD (sem.ofNat 0)) = some n) :
    step sem env P s = { s with regs := upd s.regs Special.ra (sem.ofNat (s.pc + 1)), pc := n } := by
  rw [step_eq hh hi, hk, applyOut_eq, exec_jal, target_eq_jump.mpr ht]
  have : writeBack s.regs i.dst ({ ra := some (sem.ofNat (s.pc + 1)), next := .jump n } : Out V) =
      upd s.regs Special.ra (sem.ofNat (s.pc + 1)) := by
    cases i.dst <;> rfl
  rw [this, hh]
  rfl

end

theorem all_zipIdx {α : Type} {l : List α} {f : α × Nat → Bool} (h : l.zipIdx.all f = true) {i : Nat} {x : α}
    (hx : l[i]? = some x) : f (x, i) = true :=
  List.all_eq_true.mp h (x, i) (by rw [List.mem_zipIdx_iff_getElem?]; simpa using hx)

end PV.IC10

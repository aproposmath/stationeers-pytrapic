import PV.Model.Front
import PV.Proofs.CoreGrow
import PV.Proofs.Machine
/-
The part of the front-end proof (`PV.Front`) that does not mention the reference semantics: how the flattening state evolves
(`Step`, `WF`, `Ext`), a successful call of each flattening function as derivation rules (`FlatE` … `FlatB`), and what the code of
an expression does when run (`EOut`).
-/
namespace PV.Front
open PV.IC10
open PV.Flatten (Cfg CStmt Reg seqAll cmpNames branchPair)
open PV.Core (SSt Res)

def WF (fs : FS) : Prop :=
  (∀ x r, fs.lookup x = some r → r < fs.next) ∧ (∀ x y r, fs.lookup x = some r → fs.lookup y = some r → x = y)

theorem wf_empty : WF {} := ⟨fun x r h => by simp [FS.lookup] at h, fun x y r h => by simp [FS.lookup] at h⟩

def Step (fs fs1 : FS) : Prop :=
  fs.next ≤ fs1.next ∧ (∀ x r, fs.lookup x = some r → fs1.lookup x = some r) ∧
  (∀ x r, fs1.lookup x = some r → fs.lookup x = some r ∨ fs.next ≤ r)

theorem Step.refl (fs : FS) : Step fs fs := ⟨Nat.le_refl _, fun _ _ h => h, fun _ _ h => Or.inl h⟩

theorem Step.trans {a b c : FS} (h1 : Step a b) (h2 : Step b c) : Step a c := by
  refine ⟨Nat.le_trans h1.1 h2.1, fun x r h => h2.2.1 x r (h1.2.1 x r h), fun x r h => ?_⟩
  rcases h2.2.2 x r h with h | h
  · exact h1.2.2 x r h
  · exact Or.inr (Nat.le_trans h1.1 h)

theorem step_fresh (fs : FS) : Step fs fs.fresh.1 := ⟨by simp [FS.fresh], fun _ _ h => h, fun _ _ h => Or.inl h⟩

theorem wf_fresh (fs : FS) (h : WF fs) : WF fs.fresh.1 :=
  ⟨fun x r hx => Nat.lt_succ_of_lt (h.1 x r hx), h.2⟩

theorem lookup_snoc (vars : List (String × Nat)) (n k : Nat) (x y : String) :
    (FS.lookup ⟨vars ++ [(x, n)], k⟩ y) = match FS.lookup ⟨vars, k⟩ y with | some r => some r | none => if x = y then some n else none := by
  simp only [FS.lookup, List.find?_append]
  cases h : vars.find? (fun p => p.1 == y) with
  | some p => simp
  | none =>
    by_cases hxy : x = y
    · simp [hxy]
    · simp [hxy]

theorem lookup_mk (fs : FS) (k : Nat) (y : String) : FS.lookup ⟨fs.vars, k⟩ y = fs.lookup y := rfl

theorem regOf_lookup (fs : FS) (x : String) : (fs.regOf x).1.lookup x = some (fs.regOf x).2 := by
  unfold FS.regOf
  cases h : fs.lookup x with
  | some r => simp [h]
  | none =>
    simp only
    rw [lookup_snoc, lookup_mk, h]; simp

theorem lookup_ext {fs : FS} {x y : String} {r : Nat} (hy : FS.lookup ⟨fs.vars ++ [(x, fs.next)], fs.next + 1⟩ y = some r) :
    fs.lookup y = some r ∨ (y = x ∧ r = fs.next) := by
  rw [lookup_snoc, lookup_mk] at hy
  cases hy' : fs.lookup y with
  | some r' => rw [hy'] at hy; exact Or.inl hy
  | none =>
    rw [hy'] at hy
    by_cases hxy : x = y
    · simp [hxy] at hy; exact Or.inr ⟨hxy.symm, hy.symm⟩
    · simp [hxy] at hy

theorem step_regOf (fs : FS) (x : String) : Step fs (fs.regOf x).1 := by
  unfold FS.regOf
  cases h : fs.lookup x with
  | some r => exact Step.refl fs
  | none =>
    refine ⟨by simp, fun y r hy => ?_, fun y r hy => ?_⟩
    · simp only; rw [lookup_snoc, lookup_mk, hy]
    · rcases lookup_ext hy with h1 | ⟨-, h2⟩
      · exact Or.inl h1
      · exact Or.inr (by rw [h2]; exact Nat.le_refl _)

theorem wf_regOf (fs : FS) (x : String) (h : WF fs) : WF (fs.regOf x).1 := by
  unfold FS.regOf
  cases hx : fs.lookup x with
  | some r => exact h
  | none =>
    refine ⟨fun y r hy => ?_, fun y z r hy hz => ?_⟩
    · rcases lookup_ext hy with h1 | ⟨_, h2⟩
      · exact Nat.lt_succ_of_lt (h.1 y r h1)
      · simp [h2]
    · rcases lookup_ext hy with h1 | ⟨h1, h2⟩ <;> rcases lookup_ext hz with h3 | ⟨h3, h4⟩
      · exact h.2 y z r h1 h3
      · have := h.1 y r h1; omega
      · have := h.1 z r h3; omega
      · rw [h1, h3]

theorem step_pick (fs : FS) (t : Option Nat) : Step fs (fs.pick t).1 := by
  cases t with
  | none => exact step_fresh fs
  | some t => exact Step.refl fs

theorem wf_pick (fs : FS) (t : Option Nat) (h : WF fs) : WF (fs.pick t).1 := by
  cases t with
  | none => exact wf_fresh fs h
  | some t => exact h

variable {V : Type}

/-- what every flattening function does to its state (the conclusion of `flatE_step`, `flatB_step`), as a preorder -/
structure Ext (fs fs1 : FS) : Prop where
  step : Step fs fs1
  wf : WF fs → WF fs1

theorem Ext.le {a b : FS} (h : Ext a b) : a.next ≤ b.next := h.step.1

theorem Ext.refl (fs : FS) : Ext fs fs := ⟨Step.refl fs, id⟩
theorem Ext.trans {a b c : FS} (h1 : Ext a b) (h2 : Ext b c) : Ext a c := ⟨h1.step.trans h2.step, fun w => h2.wf (h1.wf w)⟩
theorem ext_pick (fs : FS) (t : Option Nat) : Ext fs (fs.pick t).1 := ⟨step_pick fs t, wf_pick fs t⟩
theorem ext_regOf (fs : FS) (x : String) : Ext fs (fs.regOf x).1 := ⟨step_regOf fs x, wf_regOf fs x⟩

/-- the instruction `flatE` emits for a unary operator (a name for the expression in the model) -/
def unInstr (cf : Cfg V) (t : Nat) (op : String) (oa : Opnd Reg V) : CStmt V :=
  if op == "neg" then PV.Core.Stmt.alu t "sub" [(.num cf.zero), oa]
  else if op == "not" then PV.Core.Stmt.alu t "seqz" [oa] else PV.Core.Stmt.alu t op [oa]

/-! A successful flattening as derivation rules, one per path of the model that returns `some`: `FlatE cf fs tgt e fs1 code o` is
what `flatE cf fs tgt e = some (fs1, code, o)` tells (`flatE_rel`; likewise `FlatArgs`, `FlatTest`, `FlatS`, `FlatB`).  A rule keeps
the premises some proof uses: the side conditions that only narrow the fragment (`isLit`, `allLit`, `once`) are left out, so a
derivation need not come from a successful call.  The `_rel` theorems are the only proofs that open the nested `match`es of the
model; everything else goes by cases or by induction on the derivation. -/

mutual
inductive FlatE (cf : Cfg V) : FS → Option Nat → PV.Src.Expr V → FS → List (CStmt V) → Opnd Reg V → Prop
  | num : FlatE cf fs tgt (.num v) fs [] (.num v)
  | gvar (x : String) (r : Nat) (hx : fs.lookup x = some r) : FlatE cf fs tgt (.gvar x) fs [] (.reg r)
  | bin (ha : FlatE cf fs none a fsa ca oa) (hb : FlatE cf fsa none b fsb cb ob) :
      FlatE cf fs tgt (.bin op a b) (fsb.pick tgt).1 (ca ++ cb ++ [.alu (fsb.pick tgt).2 op [oa, ob]]) (.reg (fsb.pick tgt).2)
  /-- a folded literal -/
  | neg (ha : FlatE cf fs none a fsa ca (.num v)) : FlatE cf fs tgt (.un "neg" a) fsa ca (.num (cf.negV v))
  | un (ha : FlatE cf fs none a fsa ca oa) :
      FlatE cf fs tgt (.un op a) (fsa.pick tgt).1 (ca ++ [unInstr cf (fsa.pick tgt).2 op oa]) (.reg (fsa.pick tgt).2)
  | read (ha : FlatArgs cf fs args fsa ca os) :
      FlatE cf fs tgt (.read q args) (fsa.pick tgt).1 (ca ++ [.load (fsa.pick tgt).2 q os]) (.reg (fsa.pick tgt).2)
  | prim (ha : FlatArgs cf fs args fsa ca os) :
      FlatE cf fs tgt (.prim op args) (fsa.pick tgt).1 (ca ++ [.alu (fsa.pick tgt).2 op os]) (.reg (fsa.pick tgt).2)
  | sget (ha : FlatE cf fs none a fsa ca oa) :
      FlatE cf fs tgt (.sget a) (fsa.pick tgt).1 (ca ++ [.getm (fsa.pick tgt).2 oa]) (.reg (fsa.pick tgt).2)
  | ifexp (hc : FlatE cf fs none c fsa cc oc) (ha : FlatE cf fsa none a fsb ca oa) (hb : FlatE cf fsb none b fsc cb ob)
      (hna : noSget a = true) (hnb : noSget b = true) :
      FlatE cf fs tgt (.ifexp c a b) (fsc.pick tgt).1 (cc ++ ca ++ cb ++ cb ++ [.alu (fsc.pick tgt).2 "select" [oc, oa, ob]])
        (.reg (fsc.pick tgt).2)
inductive FlatArgs (cf : Cfg V) : FS → List (PV.Src.Expr V) → FS → List (CStmt V) → List (Opnd Reg V) → Prop
  | nil : FlatArgs cf fs [] fs [] []
  | cons (ha : FlatE cf fs none e fsa ca oa) (hb : FlatArgs cf fsa es fsb cb os) : FlatArgs cf fs (e :: es) fsb (ca ++ cb) (oa :: os)
end

mutual
theorem flatE_rel {cf : Cfg V} {e : PV.Src.Expr V} {fs fs1 : FS} {tgt : Option Nat} {code : List (CStmt V)} {o : Opnd Reg V}
    (h : flatE cf fs tgt e = some (fs1, code, o)) : FlatE cf fs tgt e fs1 code o :=
  match e, h with
  | .num v, h => by cases h; exact .num
  | .gvar x, h => by
    simp only [flatE] at h
    split at h
    · rename_i r hr; cases h; exact .gvar _ _ hr
    · cases h
  | .bin op a b, h => by
    simp only [flatE] at h
    split at h
    · cases h
    · rename_i fsa ca oa ha
      split at h
      · cases h
      · rename_i fsb cb ob hb
        split at h
        · cases h
        · cases h; exact .bin (flatE_rel ha) (flatE_rel hb)
  | .un op a, h => by
    simp only [flatE] at h
    split at h
    · cases h
    · rename_i fsa ca oa ha
      split at h
      · split at h
        · split at h
          · rename_i hneg; cases h; cases eq_of_beq hneg; exact .neg (flatE_rel ha)
          · cases h
        · cases h
      · cases h; exact .un (flatE_rel ha)
  | .read q args, h => by
    simp only [flatE] at h
    split at h
    · cases h
    · rename_i fsa ca os ha; cases h; exact .read (flatArgs_rel ha)
  | .prim op args, h => by
    simp only [flatE] at h
    split at h
    · cases h
    · rename_i fsa ca os ha
      split at h
      · cases h
      · cases h; exact .prim (flatArgs_rel ha)
  | .sget a, h => by
    simp only [flatE] at h
    split at h
    · cases h
    · rename_i fsa ca oa ha; cases h; exact .sget (flatE_rel ha)
  | .ifexp c a b, h => by
    simp only [flatE] at h
    split at h
    · cases h
    · rename_i fsa cc oc hc
      split at h
      · cases h
      · rename_i fsb ca oa ha
        split at h
        · cases h
        · rename_i fsc cb ob hb
          split at h
          · cases h
          · rename_i hcond
            cases h
            simp [not_or] at hcond
            exact .ifexp (flatE_rel hc) (flatE_rel ha) (flatE_rel hb) hcond.2.1 hcond.2.2
  | .lvar _, h => nomatch h
  | .index _ _, h => nomatch h
  | .call _ _, h => nomatch h

theorem flatArgs_rel {cf : Cfg V} {es : List (PV.Src.Expr V)} {fs fs1 : FS} {code : List (CStmt V)} {os : List (Opnd Reg V)}
    (h : flatArgs cf fs es = some (fs1, code, os)) : FlatArgs cf fs es fs1 code os :=
  match es, h with
  | [], h => by cases h; exact .nil
  | e :: es, h => by
    simp only [flatArgs] at h
    split at h
    · cases h
    · rename_i fsa ca oa ha
      split at h
      · cases h
      · rename_i fsb cb ob hb; cases h; exact .cons (flatE_rel ha) (flatArgs_rel hb)
end

/-- by induction on the derivation; Lean wants the statement for argument lists (`motive_2`) spelled out -/
theorem FlatE.ext {cf : Cfg V} {e : PV.Src.Expr V} {fs fs1 : FS} {tgt : Option Nat} {code : List (CStmt V)} {o : Opnd Reg V}
    (h : FlatE cf fs tgt e fs1 code o) : Ext fs fs1 := by
  induction h using FlatE.rec (motive_2 := fun fs _ fs1 _ _ _ => Ext fs fs1) with
  | num | gvar | nil => exact Ext.refl _
  | neg _ ia => exact ia
  | un _ ia | sget _ ia | read _ ia | prim _ ia => exact ia.trans (ext_pick ..)
  | bin _ _ ia ib => exact ia.trans (ib.trans (ext_pick ..))
  | ifexp _ _ _ _ _ ic ia ib => exact ic.trans (ia.trans (ib.trans (ext_pick ..)))
  | cons _ _ ia ib => exact ia.trans ib

theorem FlatArgs.ext {cf : Cfg V} {es : List (PV.Src.Expr V)} {fs fs1 : FS} {code : List (CStmt V)} {os : List (Opnd Reg V)}
    (h : FlatArgs cf fs es fs1 code os) : Ext fs fs1 := by
  induction es generalizing fs code os with
  | nil => cases h; exact Ext.refl _
  | cons e es ih => cases h with | cons ha hb => exact ha.ext.trans (ih hb)

theorem flatE_step (cf : Cfg V) : ∀ (e : PV.Src.Expr V) (fs : FS) (tgt : Option Nat) (fs1 : FS) (code : List (CStmt V)) (o : Opnd Reg V),
    flatE cf fs tgt e = some (fs1, code, o) → Step fs fs1 ∧ (WF fs → WF fs1) :=
  fun _ _ _ _ _ _ h => ⟨(flatE_rel h).ext.step, (flatE_rel h).ext.wf⟩

/-- a test is a fused comparison, the truth of a value, or the falsity of a value (the model's seven paths are these three) -/
inductive FlatTest (cf : Cfg V) : FS → PV.Src.Expr V → FS → List (CStmt V) → String → String → List (Opnd Reg V) → Prop
  | cmp (hcn : cmpNames.contains op = true) (hbp : branchPair op = some (cnd, neg))
      (ha : FlatE cf fs none a fsa ca oa) (hb : FlatE cf fsa none b fsb cb ob) : FlatTest cf fs (.bin op a b) fsb (ca ++ cb) cnd neg [oa, ob]
  | truth (ha : FlatE cf fs none c fs1 pre o) : FlatTest cf fs c fs1 pre "nez" "eqz" [o]
  | falsity (ha : FlatE cf fs none e fs1 pre o) : FlatTest cf fs (.un "not" e) fs1 pre "eqz" "nez" [o]

theorem flatTest_rel {cf : Cfg V} {truth : Bool} {c : PV.Src.Expr V} {fs fs1 : FS} {pre : List (CStmt V)} {cnd neg : String}
    {os : List (Opnd Reg V)} (h : flatTest cf truth fs c = some (fs1, pre, cnd, neg, os)) : FlatTest cf fs c fs1 pre cnd neg os := by
  unfold flatTest at h
  split at h
  · rename_i op a b
    split at h
    · rename_i hcn
      split at h
      · cases h
      · rename_i fsa ca oa ha
        split at h
        · cases h
        · rename_i fsb cb ob hb
          split at h
          · cases h
          · rename_i c0 neg0 hbp
            split at h
            · cases h
            · cases h; exact .cmp hcn hbp (flatE_rel ha) (flatE_rel hb)
    · split at h
      · split at h
        · cases h
        · rename_i ha; cases h; exact .truth (flatE_rel ha)
      · cases h
  · split at h
    · split at h
      · cases h
      · rename_i ha; cases h; exact .truth (flatE_rel ha)
    · cases h
  · rename_i op e
    split at h
    · rename_i hop
      simp only [Bool.and_eq_true, beq_iff_eq] at hop
      obtain ⟨-, rfl⟩ := hop
      split at h
      · split at h
        · rename_i hr; cases h; exact .falsity (.gvar _ _ hr)
        · cases h
      · split at h
        · cases h
        · rename_i ha; cases h; exact .falsity (flatE_rel ha)
      · split at h
        · split at h
          · cases h
          · rename_i ha; cases h; exact .falsity (flatE_rel ha)
        · cases h
      · cases h
    · cases h
  · split at h
    · split at h
      · rename_i hr; cases h; exact .truth (.gvar _ _ hr)
      · cases h
    · cases h
  · cases h

theorem FlatTest.ext {cf : Cfg V} {e : PV.Src.Expr V} {fs fs1 : FS} {pre : List (CStmt V)} {c neg : String}
    {os : List (Opnd Reg V)} (h : FlatTest cf fs e fs1 pre c neg os) : Ext fs fs1 := by
  cases h with
  | cmp _ _ ha hb => exact ha.ext.trans hb.ext
  | truth ha | falsity ha => exact ha.ext

mutual
inductive FlatS (cf : Cfg V) : FS → PV.Src.Stmt V → FS → List (CStmt V) → Prop
  /-- `x = 3` -/
  | assignLit (ha : FlatE cf (fs.regOf x).1 (some (fs.regOf x).2) e fs1 ca (.num v)) :
      FlatS cf fs (.gassign x e) fs1 (ca ++ [.alu (fs.regOf x).2 "move" [.num v]])
  /-- the outermost operation of `e` has written the register of `x` -/
  | assign (ha : FlatE cf (fs.regOf x).1 (some (fs.regOf x).2) e fs1 ca (.reg (fs.regOf x).2)) : FlatS cf fs (.gassign x e) fs1 ca
  | write (ha : FlatArgs cf fs args fs1 ca os) : FlatS cf fs (.write q args) fs1 (ca ++ [.store q os])
  | sput (ha : FlatE cf fs none a fsa ca oa) (hv : FlatE cf fsa none v fs1 cv ov) :
      FlatS cf fs (.sput a v) fs1 (ca ++ cv ++ [.putm oa ov])
  | ifThen (hc : FlatTest cf fs c fsa pre cnd neg os) (ht : FlatB cf fsa t fsb ct) :
      FlatS cf fs (.ite c t []) fsb (pre ++ [.ifThen cnd neg os (seqAll ct)])
  | ite (hc : FlatTest cf fs c fsa pre cnd neg os) (ht : FlatB cf fsa t fsb ct) (he : FlatB cf fsb e fsc ce) :
      FlatS cf fs (.ite c t e) fsc (pre ++ [.ite cnd neg os (seqAll ct) (seqAll ce)])
  | loop (hone : cf.isOne v = true) (hb : FlatB cf fs body fs1 cb) : FlatS cf fs (.while (.num v) body) fs1 [.loop (seqAll cb)]
  | while (hc : FlatTest cf fs c fsa [] cnd neg os) (hb : FlatB cf fsa body fs1 cb) :
      FlatS cf fs (.while c body) fs1 [.while cnd neg os (seqAll cb)]
  | brk : FlatS cf fs .brk fs [.brk]
  | cont : FlatS cf fs .cont fs [.cont]
  | yield : FlatS cf fs .yield fs [.yield]
  | pass : FlatS cf fs .pass fs []
  | sleep (ha : FlatE cf fs none e fs1 ca oa) : FlatS cf fs (.sleep e) fs1 (ca ++ [.sleep oa])
inductive FlatB (cf : Cfg V) : FS → List (PV.Src.Stmt V) → FS → List (CStmt V) → Prop
  | nil : FlatB cf fs [] fs []
  | cons (ha : FlatS cf fs s fsa ca) (hb : FlatB cf fsa rest fs1 cb) : FlatB cf fs (s :: rest) fs1 (ca ++ cb)
end

mutual
theorem flatS_rel {cf : Cfg V} {once : List String} {s : PV.Src.Stmt V} {fs fs1 : FS} {code : List (CStmt V)}
    (h : flatS cf once fs s = some (fs1, code)) : FlatS cf fs s fs1 code :=
  match s, h with
  | .gassign x e, h => by
    simp only [flatS] at h
    split at h
    · cases h
    · split at h
      · cases h
      · rename_i ha
        split at h
        · split at h
          · cases h
          · cases h; exact .assignLit (flatE_rel ha)
        · split at h
          · rename_i hr; cases h; subst hr; exact .assign (flatE_rel ha)
          · cases h
  | .write q args, h => by
    simp only [flatS] at h
    split at h
    · cases h
    · rename_i ha; cases h; exact .write (flatArgs_rel ha)
  | .sput a v, h => by
    simp only [flatS] at h
    split at h
    · cases h
    · rename_i ha
      split at h
      · cases h
      · rename_i hb; cases h; exact .sput (flatE_rel ha) (flatE_rel hb)
  | .ite c t e, h => by
    simp only [flatS] at h
    split at h
    · cases h
    · rename_i hc
      split at h
      · cases h
      · rename_i ht
        split at h
        · rename_i hempty
          cases h
          cases e with
          | nil => exact .ifThen (flatTest_rel hc) (flatB_rel ht)
          | cons _ _ => simp at hempty
        · split at h
          · cases h
          · rename_i he; cases h; exact .ite (flatTest_rel hc) (flatB_rel ht) (flatB_rel he)
  | .while c body, h => by
    simp only [flatS] at h
    split at h
    · split at h
      · rename_i hone
        split at h
        · cases h
        · rename_i hb; cases h; exact .loop hone (flatB_rel hb)
      · cases h
    · split at h
      · cases h
      · rename_i fsa pre cnd neg os hc
        split at h
        · cases h
        · rename_i hpre
          have hpre0 : pre = [] := by cases pre with | nil => rfl | cons _ _ => simp at hpre
          subst hpre0
          split at h
          · cases h
          · rename_i hb; cases h; exact .while (flatTest_rel hc) (flatB_rel hb)
  | .brk, h => by cases h; exact .brk
  | .cont, h => by cases h; exact .cont
  | .yield, h => by cases h; exact .yield
  | .pass, h => by cases h; exact .pass
  | .sleep e, h => by
    simp only [flatS] at h
    split at h
    · cases h
    · rename_i ha; cases h; exact .sleep (flatE_rel ha)
  | .lassign _ _, h => nomatch h
  | .forRange _ _ _ _ _ _, h => nomatch h
  | .forList _ _ _ _, h => nomatch h
  | .ret _, h => nomatch h
  | .expr _, h => nomatch h
  | .hcf, h => nomatch h
  | .push _, h => nomatch h

theorem flatB_rel {cf : Cfg V} {once : List String} {ss : List (PV.Src.Stmt V)} {fs fs1 : FS} {code : List (CStmt V)}
    (h : flatB cf once fs ss = some (fs1, code)) : FlatB cf fs ss fs1 code :=
  match ss, h with
  | [], h => by cases h; exact .nil
  | s :: rest, h => by
    simp only [flatB] at h
    split at h
    · cases h
    · rename_i ha
      split at h
      · cases h
      · rename_i hb; cases h; exact .cons (flatS_rel ha) (flatB_rel hb)
end

theorem FlatS.ext {cf : Cfg V} {s : PV.Src.Stmt V} {fs fs1 : FS} {code : List (CStmt V)}
    (h : FlatS cf fs s fs1 code) : Ext fs fs1 := by
  induction h using FlatS.rec (motive_2 := fun fs _ fs1 _ _ => Ext fs fs1) with
  | assignLit ha | assign ha => exact (ext_regOf ..).trans ha.ext
  | write ha | sleep ha => exact ha.ext
  | sput ha hv => exact ha.ext.trans hv.ext
  | ifThen hc _ it => exact hc.ext.trans it
  | ite hc _ _ it ie => exact hc.ext.trans (it.trans ie)
  | loop _ _ ib => exact ib
  | «while» hc _ ib => exact hc.ext.trans ib
  | brk | cont | yield | pass | nil => exact Ext.refl _
  | cons _ _ ia ib => exact ia.trans ib

theorem FlatB.ext {cf : Cfg V} {ss : List (PV.Src.Stmt V)} {fs fs1 : FS} {code : List (CStmt V)}
    (h : FlatB cf fs ss fs1 code) : Ext fs fs1 := by
  induction ss generalizing fs code with
  | nil => cases h; exact Ext.refl _
  | cons s rest ih => cases h with | cons ha hb => exact ha.ext.trans (ih hb)

theorem flatB_step (cf : Cfg V) (once : List String) : ∀ (ss : List (PV.Src.Stmt V)) (fs fs1 : FS) (code : List (CStmt V)),
    flatB cf once fs ss = some (fs1, code) → Step fs fs1 ∧ (WF fs → WF fs1) :=
  fun _ _ _ _ h => ⟨(flatB_rel h).ext.step, (flatB_rel h).ext.wf⟩

theorem pick_lt {fs fsX : FS} {tgt : Option Nat} (hle : fs.next ≤ fsX.next) (htgt : ∀ t, tgt = some t → t < fs.next) :
    (fsX.pick tgt).2 < (fsX.pick tgt).1.next := by
  cases tgt with
  | none => exact Nat.lt_succ_self _
  | some t => exact Nat.lt_of_lt_of_le (htgt t rfl) hle

/-- a fact about the flattener, not about any run -/
theorem FlatE.opnd_lt {cf : Cfg V} {e : PV.Src.Expr V} {fs fs1 : FS} {tgt : Option Nat} {code : List (CStmt V)} {o : Opnd Reg V}
    (h : FlatE cf fs tgt e fs1 code o) (hwf : WF fs) (htgt : ∀ t, tgt = some t → t < fs.next) :
    ∀ r, o = .reg r → r < fs1.next := by
  intro r hr
  cases h with
  | num | neg ha => cases hr
  | gvar x r hx => cases hr; exact hwf.1 x _ hx
  | bin ha hb => cases hr; exact pick_lt (ha.ext.trans hb.ext).le htgt
  | un ha | sget ha | read ha | prim ha => cases hr; exact pick_lt ha.ext.le htgt
  | ifexp hc ha hb => cases hr; exact pick_lt (hc.ext.trans (ha.ext.trans hb.ext)).le htgt

theorem FlatE.tmp_lt {cf : Cfg V} {e : PV.Src.Expr V} {fs fs1 : FS} {code : List (CStmt V)} {o : Opnd Reg V}
    (h : FlatE cf fs none e fs1 code o) (hwf : WF fs) : ∀ r, o = .reg r → r < fs1.next :=
  h.opnd_lt hwf (fun _ h => nomatch h)

theorem FlatArgs.opnd_lt {cf : Cfg V} {es : List (PV.Src.Expr V)} {fs fs1 : FS} {code : List (CStmt V)} {os : List (Opnd Reg V)}
    (h : FlatArgs cf fs es fs1 code os) (hwf : WF fs) : ∀ o ∈ os, ∀ r, o = .reg r → r < fs1.next := by
  induction es generalizing fs code os with
  | nil => cases h; simp
  | cons e es ih =>
    cases h with | cons ha hb =>
    intro o ho r hr
    rcases List.mem_cons.1 ho with rfl | ho
    · exact Nat.lt_of_lt_of_le (ha.tmp_lt hwf r hr) hb.ext.le
    · exact ih hb (ha.ext.wf hwf) o ho r hr

section run
variable (sem : Sem V) (env : Env V) (F : Nat → CStmt V)

/-- what the code of an expression does: it ends normally in `σ'`, performs no effect, leaves the memory, every register below
    `fs.next` and every variable's register alone — except the target.  `fsF` is the flattening state at the END of the program:
    `var` also protects variables allocated later, whose registers lie above `fs.next` (a loop body is flattened once and runs in
    every iteration, when those variables are live) -/
structure EOut (fsF fs : FS) (tgt : Option Nat) (code : List (CStmt V)) (σ σ' : SSt V) : Prop where
  run : ∀ n, PV.Core.exec sem env F n (seqAll code) σ = .done σ'
  trace : σ'.trace = σ.trace
  mem : σ'.mem = σ.mem
  low : ∀ r, r < fs.next → tgt ≠ some r → σ'.regs r = σ.regs r
  var : ∀ x r, fsF.lookup x = some r → tgt ≠ some r → σ'.regs r = σ.regs r

variable {sem env F}

theorem EOut.nil {fsF fs : FS} {tgt : Option Nat} {σ : SSt V} : EOut sem env F fsF fs tgt [] σ σ :=
  ⟨fun _ => PV.Core.exec_skip .., rfl, rfl, fun _ _ _ => rfl, fun _ _ _ _ => rfl⟩

theorem EOut.eq_of_nil {fsF fs : FS} {tgt : Option Nat} {σ σ' : SSt V} (h : EOut sem env F fsF fs tgt [] σ σ') : σ' = σ :=
  (Res.ok.inj ((PV.Core.exec_skip sem env F 0 σ).symm.trans (h.run 0))).2.symm

theorem EOut.append {fsF fs fsa : FS} {ca cb : List (CStmt V)} {σ σ1 σ2 : SSt V} {tgt : Option Nat}
    (h1 : EOut sem env F fsF fs none ca σ σ1) (h2 : EOut sem env F fsF fsa tgt cb σ1 σ2) (hle : fs.next ≤ fsa.next) :
    EOut sem env F fsF fs tgt (ca ++ cb) σ σ2 := by
  refine ⟨fun n => ?_, h2.trace.trans h1.trace, h2.mem.trans h1.mem, fun r hr ht => ?_, fun x r hx ht => ?_⟩
  · rw [exec_seqAll_append_done (h1.run n)]; exact h2.run n
  · rw [h2.low r (Nat.lt_of_lt_of_le hr hle) ht, h1.low r hr (by simp)]
  · rw [h2.var x r hx ht, h1.var x r hx (by simp)]

variable (sem env F) in
abbrev EVal (fsF fs : FS) (tgt : Option Nat) (code : List (CStmt V)) (o : Opnd Reg V) (σ : SSt V) (v : V) : Prop :=
  ∃ σ', EOut sem env F fsF fs tgt code σ σ' ∧ o.eval σ'.regs = v

/-- every operation node: operand code, then one instruction into the picked register — the target, or a fresh register, which no
    variable has or will have -/
theorem eval_op {fsF fs fsX : FS} {c : List (CStmt V)} {σ σ1 : SSt V} {tgt : Option Nat} {s : CStmt V} {val : V}
    (h1 : EOut sem env F fsF fs none c σ σ1) (hX : Ext fs fsX) (hwf : WF fs) (hF : Step (fsX.pick tgt).1 fsF)
    (hs : ∀ n, PV.Core.exec sem env F n s σ1 = .done { σ1 with regs := upd σ1.regs (fsX.pick tgt).2 val }) :
    EVal sem env F fsF fs tgt (c ++ [s]) (.reg (fsX.pick tgt).2) σ val := by
  have hne : ∀ r, tgt ≠ some r → (r < fs.next ∨ ∃ x, fsF.lookup x = some r) → r ≠ (fsX.pick tgt).2 := by
    intro r ht hr
    cases tgt with
    | some t => exact fun e => ht (by rw [e]; rfl)
    | none =>
      simp only [FS.pick, FS.fresh] at hF ⊢
      have := hX.le
      rcases hr with hr | ⟨x, hx⟩
      · omega
      · rcases hF.2.2 x r hx with h | h
        · have := (hX.wf hwf).1 x r h; omega
        · simp only at h; omega
  refine ⟨{ σ1 with regs := upd σ1.regs (fsX.pick tgt).2 val }, ⟨fun n => ?_, h1.trace, h1.mem, fun r hr ht => ?_, fun x r hx ht => ?_⟩,
    upd_same ..⟩
  · rw [exec_seqAll_append_done (h1.run n)]; exact hs n
  · exact (upd_ne _ _ (hne r ht (Or.inl hr))).trans (h1.low r hr (by simp))
  · exact (upd_ne _ _ (hne r ht (Or.inr ⟨x, hx⟩))).trans (h1.var x r hx (by simp))

end run

end PV.Front

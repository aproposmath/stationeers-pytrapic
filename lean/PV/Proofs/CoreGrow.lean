import PV.Model.Flatten
import PV.Proofs.CoreExec
/-
Two facts about running core code alone: running never loses an effect (`exec_grows`), and a `seqAll` runs its parts one
after the other (`exec_seqAll_append`).  They are stated for `CStmt` / `seqAll` of `Model/Flatten` and live in `PV.Front`, where
the front-end proofs use them.
-/
namespace PV.Front
open PV.IC10
open PV.Flatten (CStmt seqAll)
open PV.Core (SSt Res Exit thenRun again leave exec_seq exec_inl exec_call_succ exec_loop_succ exec_while_succ exec_ite exec_ifThen)

variable {V : Type}

/-- the core result has at least the effects `τ` (traces are newest first); `stuck` — a stack address outside the stack — is
    outside the compared domain -/
def Grow (τ : List (Eff V)) : Res V → Prop
  | .ok _ σ' => τ <:+ σ'.trace
  | .timeout σ' => τ <:+ σ'.trace
  | .stuck => True

theorem grow_trans {τ : List (Eff V)} {σ : SSt V} {r : Res V} (h1 : τ <:+ σ.trace) (h2 : Grow σ.trace r) : Grow τ r := by
  cases r with
  | ok e s => exact List.IsSuffix.trans h1 h2
  | timeout s => exact List.IsSuffix.trans h1 h2
  | stuck => trivial

theorem Grow.bind {τ : List (Eff V)} {r : Res V} {f : Exit → SSt V → Res V} (h : Grow τ r) (hf : ∀ e s, Grow s.trace (f e s)) :
    Grow τ (r.bind f) := by
  cases r with
  | ok e s => exact grow_trans h (hf e s)
  | timeout s => exact h
  | stuck => trivial

theorem grow_thenRun {rest : SSt V → Res V} (h : ∀ s, Grow s.trace (rest s)) (e : Exit) (s : SSt V) : Grow s.trace (thenRun rest e s) := by
  cases e
  · exact h s
  all_goals exact List.suffix_refl _

theorem grow_again {rest : SSt V → Res V} (h : ∀ s, Grow s.trace (rest s)) (e : Exit) (s : SSt V) : Grow s.trace (again rest e s) := by
  cases e
  · exact h s
  · exact List.suffix_refl _
  · exact h s
  · exact List.suffix_refl _

theorem grow_leave (e : Exit) (s : SSt V) : Grow s.trace (leave e s) := by
  cases e
  · exact List.suffix_refl _
  · trivial
  · trivial
  · exact List.suffix_refl _

/-- induction on the statement, given the claim for the fuel below (calls, loop iterations) -/
theorem exec_grows_inner (sem : Sem V) (env : Env V) (F : Nat → CStmt V) (n : Nat)
    (hrec : ∀ k, k < n → ∀ (c : CStmt V) (σ : SSt V), Grow σ.trace (PV.Core.exec sem env F k c σ)) :
    ∀ (c : CStmt V) (σ : SSt V), Grow σ.trace (PV.Core.exec sem env F n c σ) := by
  intro c
  induction c with
  | alu | load | skip | brk | cont | ret => intro σ; simp only [PV.Core.exec, Grow]; exact List.suffix_refl _
  | store | yield | sleep => intro σ; simp only [PV.Core.exec, Grow]; exact List.suffix_cons _ _
  | getm | putm =>
    intro σ
    simp only [PV.Core.exec]
    split
    · split
      · exact List.suffix_refl _
      · trivial
    · trivial
  | seq p q ihp ihq => intro σ; rw [exec_seq]; exact (ihp σ).bind (grow_thenRun ihq)
  | ite c neg args p q ihp ihq =>
    intro σ
    rw [exec_ite]
    split
    · exact ihp σ
    · exact ihq σ
  | ifThen c neg args p ihp =>
    intro σ
    rw [exec_ifThen]
    split
    · exact ihp σ
    · exact List.suffix_refl _
  | inl body ih => intro σ; rw [exec_inl]; exact (ih σ).bind grow_leave
  | call k =>
    intro σ
    cases n with
    | zero => simp only [PV.Core.exec, Grow]; exact List.suffix_refl _
    | succ m => rw [exec_call_succ]; exact (hrec m (Nat.lt_succ_self m) (F k) σ).bind grow_leave
  | «while» c neg args body ih =>
    intro σ
    cases n with
    | zero => simp only [PV.Core.exec, Grow]; exact List.suffix_refl _
    | succ m =>
      rw [exec_while_succ]
      split
      · exact (ih σ).bind (grow_again (hrec m (Nat.lt_succ_self m) _))
      · exact List.suffix_refl _
  | loop body ih =>
    intro σ
    cases n with
    | zero => simp only [PV.Core.exec, Grow]; exact List.suffix_refl _
    | succ m => rw [exec_loop_succ]; exact (ih σ).bind (grow_again (hrec m (Nat.lt_succ_self m) _))

section
variable (sem : Sem V) (env : Env V) (F : Nat → CStmt V)

/-- running core code never loses an effect -/
theorem exec_grows : ∀ (n : Nat) (c : CStmt V) (σ : SSt V), Grow σ.trace (PV.Core.exec sem env F n c σ) :=
  fun n => Nat.strongRecOn n (exec_grows_inner sem env F)

theorem exec_seqAll_cons (n : Nat) (s : CStmt V) (rest : List (CStmt V)) (σ : SSt V) :
    PV.Core.exec sem env F n (seqAll (s :: rest)) σ = (PV.Core.exec sem env F n s σ).bind (thenRun (PV.Core.exec sem env F n (seqAll rest))) := by
  cases rest with
  | nil =>
    simp only [seqAll]
    cases PV.Core.exec sem env F n s σ with
    | ok e s' => cases e <;> simp only [Res.bind, thenRun, PV.Core.exec]
    | _ => rfl
  | cons r rs => exact exec_seq sem env F n σ s (seqAll (r :: rs))

theorem exec_seqAll_append (n : Nat) (a b : List (CStmt V)) (σ : SSt V) :
    PV.Core.exec sem env F n (seqAll (a ++ b)) σ = (PV.Core.exec sem env F n (seqAll a) σ).bind (thenRun (PV.Core.exec sem env F n (seqAll b))) := by
  induction a generalizing σ with
  | nil => simp only [List.nil_append, seqAll, PV.Core.exec, Res.bind, thenRun]
  | cons s a ih =>
    rw [List.cons_append, exec_seqAll_cons, exec_seqAll_cons]
    cases PV.Core.exec sem env F n s σ with
    | ok e s' =>
      cases e
      · exact ih s'
      all_goals rfl
    | _ => rfl

variable {sem env F} in
theorem exec_seqAll_append_done {n : Nat} {a b : List (CStmt V)} {σ σ1 : SSt V} (h : PV.Core.exec sem env F n (seqAll a) σ = .done σ1) :
    PV.Core.exec sem env F n (seqAll (a ++ b)) σ = PV.Core.exec sem env F n (seqAll b) σ1 := by
  rw [exec_seqAll_append, h]; rfl

end

end PV.Front

import PV.Model.Core
/-
The reference semantics `PV.Core.exec` as a composition of results (`Res.bind`): the equations of the compound forms in that
shape, and those of the simple forms as they are written in the definition.
-/
namespace PV.Core
open PV.IC10

variable {V : Type}

def Res.bind (r : Res V) (f : Exit → SSt V → Res V) : Res V :=
  match r with
  | .ok e s => f e s
  | .timeout s => .timeout s
  | .stuck => .stuck

def thenRun (rest : SSt V → Res V) : Exit → SSt V → Res V
  | .norm, s => rest s
  | e, s => .ok e s

def again (rest : SSt V → Res V) : Exit → SSt V → Res V
  | .brk, s => .done s
  | .ret, s => .ok .ret s
  | _, s => rest s

def leave : Exit → SSt V → Res V
  | .norm, s => .done s
  | .ret, s => .done s
  | _, _ => .stuck

section execEq
variable (sem : Sem V) (env : Env V) (F : Nat → Stmt V) (n : Nat) (σ : SSt V)

theorem exec_seq (p q : Stmt V) : exec sem env F n (.seq p q) σ = (exec sem env F n p σ).bind (thenRun (exec sem env F n q)) := by
  rw [exec]; cases exec sem env F n p σ with
  | ok e s => cases e <;> rfl
  | _ => rfl

theorem exec_inl (body : Stmt V) : exec sem env F n (.inl body) σ = (exec sem env F n body σ).bind leave := by
  rw [exec]; cases exec sem env F n body σ with
  | ok e s => cases e <;> rfl
  | _ => rfl

theorem exec_call_succ (k : Nat) : exec sem env F (n + 1) (.call k) σ = (exec sem env F n (F k) σ).bind leave := by
  rw [exec]; cases exec sem env F n (F k) σ with
  | ok e s => cases e <;> rfl
  | _ => rfl

theorem exec_loop_succ (body : Stmt V) :
    exec sem env F (n + 1) (.loop body) σ = (exec sem env F (n + 1) body σ).bind (again (exec sem env F n (.loop body))) := by
  rw [exec]; cases exec sem env F (n + 1) body σ with
  | ok e s => cases e <;> rfl
  | _ => rfl

theorem exec_while_succ (c neg : String) (args : List (Opnd Reg V)) (body : Stmt V) :
    exec sem env F (n + 1) (.while c neg args body) σ =
      if sem.cond c (evalArgs σ.regs args) then (exec sem env F (n + 1) body σ).bind (again (exec sem env F n (.while c neg args body)))
      else .done σ := by
  rw [exec]; cases exec sem env F (n + 1) body σ with
  | ok e s => cases e <;> rfl
  | _ => rfl

theorem exec_alu (x : Reg) (op : String) (args : List (Opnd Reg V)) :
    exec sem env F n (.alu x op args) σ = .done { σ with regs := upd σ.regs x (sem.alu op (evalArgs σ.regs args)) } := by
  rw [exec]

theorem exec_load (x : Reg) (q : String) (args : List (Opnd Reg V)) :
    exec sem env F n (.load x q args) σ = .done { σ with regs := upd σ.regs x (env σ.trace q (evalArgs σ.regs args)) } := by
  rw [exec]

theorem exec_store (q : String) (args : List (Opnd Reg V)) :
    exec sem env F n (.store q args) σ = .done { σ with trace := ⟨q, evalArgs σ.regs args⟩ :: σ.trace } := by
  rw [exec]

theorem exec_yield : exec sem env F n .yield σ = .done { σ with trace := ⟨"yield", []⟩ :: σ.trace } := by
  rw [exec]

theorem exec_sleep (a : Opnd Reg V) : exec sem env F n (.sleep a) σ = .done { σ with trace := ⟨"sleep", [a.eval σ.regs]⟩ :: σ.trace } := by
  rw [exec]

theorem exec_skip : exec sem env F n .skip σ = .done σ := by
  rw [exec]

theorem exec_brk : exec sem env F n .brk σ = .ok .brk σ := by
  rw [exec]

theorem exec_cont : exec sem env F n .cont σ = .ok .cont σ := by
  rw [exec]

theorem exec_ret : exec sem env F n .ret σ = .ok .ret σ := by
  rw [exec]

theorem exec_call_zero (k : Nat) : exec sem env F 0 (.call k) σ = .timeout σ := by
  rw [exec]

theorem exec_loop_zero (body : Stmt V) : exec sem env F 0 (.loop body) σ = .timeout σ := by
  rw [exec]

theorem exec_while_zero (c neg : String) (args : List (Opnd Reg V)) (body : Stmt V) :
    exec sem env F 0 (.while c neg args body) σ = .timeout σ := by
  rw [exec]

variable {sem env F n σ} in
theorem exec_getm {x : Reg} {a : Opnd Reg V} {k : Nat} (h : sem.toAddr (a.eval σ.regs) = some k) (hk : k < stackSize) :
    exec sem env F n (.getm x a) σ = .done { σ with regs := upd σ.regs x (σ.mem k) } := by
  simp only [exec, h, hk, if_true]

variable {sem env F n σ} in
theorem exec_putm {a v : Opnd Reg V} {k : Nat} (h : sem.toAddr (a.eval σ.regs) = some k) (hk : k < stackSize) :
    exec sem env F n (.putm a v) σ = .done { σ with mem := updMem σ.mem k (v.eval σ.regs) } := by
  simp only [exec, h, hk, if_true]

theorem exec_ite (c neg : String) (args : List (Opnd Reg V)) (p q : Stmt V) :
    exec sem env F n (.ite c neg args p q) σ = if sem.cond c (evalArgs σ.regs args) then exec sem env F n p σ else exec sem env F n q σ := by
  rw [exec]

theorem exec_ifThen (c neg : String) (args : List (Opnd Reg V)) (p : Stmt V) :
    exec sem env F n (.ifThen c neg args p) σ = if sem.cond c (evalArgs σ.regs args) then exec sem env F n p σ else .done σ := by
  rw [exec]

end execEq

end PV.Core

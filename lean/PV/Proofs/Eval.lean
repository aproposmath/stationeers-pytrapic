import PV.Model.Tables
/-!
Representations on which kernel evaluation is cheap, each with the lemma that it agrees with the model's own.
The kernel computes `Nat` operations on literals directly; it evaluates `UInt32` arithmetic through `BitVec` and
`Fin`, string equality through the UTF-8 encoding of both sides, and `Decidable (l.Nodup)` through a proof term per
pair.  The C16 tables are evaluated through the definitions here.
-/
namespace PV.Eval

def insertSorted (x : Nat) : List Nat → List Nat
  | [] => [x]
  | y :: s => bif Nat.ble x y then x :: y :: s else y :: insertSorted x s

def ascending : List Nat → Bool
  | x :: y :: l => Nat.blt x y && ascending (y :: l)
  | _ => true

/-- Insertion sort, then one pass: linear on a list that is in order already, quadratic at worst.  Soundness needs
    of `insertSorted` only that it permutes, so nothing rests on the order the table happens to have.  (Core's
    `List.mergeSort` does not reduce in the kernel: `decide +kernel` on `ascending (l.mergeSort Nat.ble)` stops at
    "Decidable instance did not reduce".) -/
def distinctNat (l : List Nat) : Bool := ascending (l.foldr insertSorted [])

theorem insertSorted_perm (x : Nat) : ∀ s, (insertSorted x s).Perm (x :: s)
  | [] => .refl _
  | y :: s => by
    unfold insertSorted
    cases Nat.ble x y
    · exact ((insertSorted_perm x s).cons y).trans (.swap x y s)
    · exact .refl _

theorem foldr_insertSorted_perm : ∀ l : List Nat, (l.foldr insertSorted []).Perm l
  | [] => .refl _
  | x :: l => (insertSorted_perm x _).trans ((foldr_insertSorted_perm l).cons x)

theorem ascending_sound : ∀ l, ascending l = true → l.Pairwise (· < ·)
  | [], _ => .nil
  | [_], _ => List.pairwise_singleton ..
  | x :: y :: l, h => by
    simp only [ascending, Bool.and_eq_true, Nat.blt_eq] at h
    have ih := ascending_sound (y :: l) h.2
    refine List.pairwise_cons.2 ⟨fun z hz => ?_, ih⟩
    rcases List.mem_cons.1 hz with rfl | hz
    · exact h.1
    · exact Nat.lt_trans h.1 (List.rel_of_pairwise_cons ih hz)

theorem distinctNat_sound {l : List Nat} (h : distinctNat l = true) : l.Nodup :=
  (foldr_insertSorted_perm l).nodup_iff.1 ((ascending_sound _ h).imp Nat.ne_of_lt)

/-- injective, so that `distinctNat` does not fail on a table that is right -/
def intCode : Int → Nat
  | .ofNat n => 2 * n
  | .negSucc n => 2 * n + 1

def crcBitN (c : Nat) : Nat := (c >>> 1) ^^^ ((c &&& 1) * 0xEDB88320)

def crcByteN (c : Nat) (b : UInt8) : Nat :=
  crcBitN (crcBitN (crcBitN (crcBitN (crcBitN (crcBitN (crcBitN (crcBitN (c ^^^ b.toNat))))))))

def crc32N (bs : List UInt8) : Nat := bs.foldl crcByteN 0xFFFFFFFF ^^^ 0xFFFFFFFF

def signedN (n : Nat) : Int := if n < 2147483648 then (n : Int) else (n : Int) - 4294967296

theorem crcBit_toNat (c : UInt32) : (crcBit c).toNat = crcBitN c.toNat := by
  have hc : (c &&& 1 == 1) = (c.toNat % 2 == 1) := by
    rw [Bool.eq_iff_iff, beq_iff_eq, beq_iff_eq, ← UInt32.toNat_inj, UInt32.toNat_and, UInt32.toNat_one,
      Nat.and_one_is_mod]
  unfold crcBit crcBitN
  rw [hc, Nat.and_one_is_mod]
  rcases Nat.mod_two_eq_zero_or_one c.toNat with h | h <;> simp [h]

theorem crcByte_toNat (c : UInt32) (b : UInt8) : (crcByte c b).toNat = crcByteN c.toNat b := by
  simp only [crcByte, crcByteN, crcBit_toNat, UInt32.toNat_xor, UInt8.toNat_toUInt32]

theorem calcHashBytes_eq (bs : List UInt8) : calcHashBytes bs = signedN (crc32N bs) := by
  unfold calcHashBytes signed32 crc32 signedN crc32N
  rw [UInt32.toNat_xor, ← List.foldl_hom UInt32.toNat fun c b => (crcByte_toNat c b).symm]; rfl

def bytesKey : List UInt8 → Nat
  | [] => 1
  | b :: l => bytesKey l * 256 + b.toNat

/-- the UTF-8 bytes as base-256 digits under a leading 1: computed once per string, then compared as a number -/
def strKey (s : String) : Nat := bytesKey s.toByteArray.data.toList

theorem bytesKey_pos : ∀ l, 0 < bytesKey l
  | [] => Nat.one_pos
  | b :: l => by have := bytesKey_pos l; unfold bytesKey; omega

theorem bytesKey_inj : ∀ l l', bytesKey l = bytesKey l' → l = l'
  | [], [], _ => rfl
  | [], b :: l, h | b :: l, [], h => by have := bytesKey_pos l; unfold bytesKey at h; omega
  | b :: l, b' :: l', h => by
    unfold bytesKey at h
    have := b.toNat_lt; have := b'.toNat_lt
    rw [bytesKey_inj l l' (by omega), UInt8.toNat_inj.1 (by omega : b.toNat = b'.toNat)]

theorem strKey_inj {a b : String} (h : strKey a = strKey b) : a = b :=
  String.toByteArray_inj.1 (ByteArray.ext (Array.toList_inj.1 (bytesKey_inj _ _ h)))

theorem beq_strKey (a b : String) : Nat.beq (strKey a) (strKey b) = (a == b) :=
  Bool.eq_iff_iff.2 ⟨fun h => beq_iff_eq.2 (strKey_inj (Nat.eq_of_beq_eq_true h)),
    fun h => by rw [beq_iff_eq.1 h]; exact Nat.beq_refl _⟩

theorem contains_strKey (l : List String) (s : String) :
    (l.map strKey).any (Nat.beq (strKey s)) = l.contains s := by
  induction l with
  | nil => rfl
  | cons a l ih => rw [List.map_cons, List.any_cons, List.contains_cons, ih, beq_strKey]

theorem lookup_strKey (op : String) :
    PV.IC10.Spec.lookup op = (PV.IC10.Spec.table.find? fun p => Nat.beq (strKey p.1) (strKey op)).map (·.2) := by
  simp only [PV.IC10.Spec.lookup, beq_strKey]

end PV.Eval

import PV.Model.RegAlloc
/-! `assign_colors` gives different colours to overlapping intervals. -/
namespace PV.RegAlloc

def St.colours (st : St) : List Nat := st.active.map (·.2) ++ st.free

/-- invariant after processing the symbols `done` (each with its colour), the last of them starting at `t` -/
structure Inv (st : St) (done : List (Iv × Nat)) (t : Nat) : Prop where
  unexpired : ∀ d ∈ done, t < d.1.2 → (d.1.2, d.2) ∈ st.active
  nodup : st.colours.Nodup
  bound : ∀ c ∈ st.colours, c < st.next

theorem inv_init : Inv St.init [] 0 := ⟨nofun, .nil, nofun⟩

abbrev St.still (st : St) (t : Nat) := st.active.filter (fun p => !(decide (p.1 ≤ t)))
abbrev St.freed (st : St) (t : Nat) := st.free ++ (st.active.filter (fun p => decide (p.1 ≤ t))).map (·.2)

theorem expire_perm (st : St) (t : Nat) : ((st.still t).map (·.2) ++ st.freed t).Perm st.colours := by
  have h := (List.filter_append_perm (fun p => decide (p.1 ≤ t)) st.active).map (·.2)
  rw [List.map_append] at h
  refine List.perm_append_comm.trans ?_
  rw [List.append_assoc]
  exact List.perm_append_comm.trans (h.append_right _)

theorem stepSym_spec (st : St) (s : Iv) :
    (stepSym st s).1.active = st.still s.1 ++ [(s.2, (stepSym st s).2)] ∧
    ((stepSym st s).1.colours.Perm st.colours ∧ (stepSym st s).1.next = st.next ∨
     (stepSym st s).1.colours.Perm (st.next :: st.colours) ∧ (stepSym st s).1.next = st.next + 1) := by
  have hperm := expire_perm st s.1
  cases h : (st.freed s.1).getLast? with
  | some c =>
    obtain ⟨fr, hfr⟩ := List.getLast?_eq_some_iff.mp h
    have hd : (st.freed s.1).dropLast = fr := by rw [hfr, List.dropLast_concat]
    have he : stepSym st s = (⟨st.still s.1 ++ [(s.2, c)], fr, st.next⟩, c) := by simp only [stepSym, h, hd]
    rw [he]
    refine ⟨rfl, .inl ⟨?_, rfl⟩⟩
    rw [hfr] at hperm
    rw [St.colours, List.map_append, List.append_assoc]
    exact (List.perm_append_comm.append_left _).trans hperm
  | none =>
    have he : stepSym st s = (⟨st.still s.1 ++ [(s.2, st.next)], [], st.next + 1⟩, st.next) := by simp only [stepSym, h]
    rw [he]
    refine ⟨rfl, .inr ⟨?_, rfl⟩⟩
    rw [List.getLast?_eq_none_iff.mp h, List.append_nil] at hperm
    rw [St.colours, List.append_nil, List.map_append]
    exact List.perm_append_comm.trans (hperm.cons _)

theorem step_inv (st : St) (done : List (Iv × Nat)) (t : Nat) (s : Iv) (hinv : Inv st done t) (hts : t ≤ s.1) :
    Inv (stepSym st s).1 ((s, (stepSym st s).2) :: done) s.1 ∧
    ∀ d ∈ done, s.1 < d.1.2 → d.2 ≠ (stepSym st s).2 := by
  obtain ⟨hun, hnd, hbd⟩ := hinv
  obtain ⟨hact, hcol⟩ := stepSym_spec st s
  have hstill : ∀ d ∈ done, s.1 < d.1.2 → (d.1.2, d.2) ∈ st.still s.1 := fun d hd hlt =>
    List.mem_filter.mpr ⟨hun d hd (by omega), by simpa using hlt⟩
  have hnew : (stepSym st s).1.colours.Nodup ∧ ∀ x ∈ (stepSym st s).1.colours, x < (stepSym st s).1.next := by
    rcases hcol with ⟨hp, hn⟩ | ⟨hp, hn⟩
    · exact ⟨hp.nodup_iff.mpr hnd, fun x hx => hn ▸ hbd x (hp.subset hx)⟩
    · -- the fresh colour `next` lies above all the old ones
      rw [hn]
      refine ⟨hp.nodup_iff.mpr (List.nodup_cons.mpr ⟨fun h => Nat.lt_irrefl _ (hbd _ h), hnd⟩), fun x hx => ?_⟩
      rcases List.mem_cons.mp (hp.subset hx) with rfl | h
      · exact Nat.lt_succ_self _
      · exact Nat.lt_succ_of_lt (hbd x h)
  refine ⟨⟨fun d hd hlt => ?_, hnew.1, hnew.2⟩, fun d hd hlt e => ?_⟩
  · rw [hact]
    rcases List.mem_cons.mp hd with rfl | hd'
    · simp
    · exact List.mem_append_left _ (hstill d hd' hlt)
  · -- the new colour stands after the still-active ones in a list without duplicates
    have h := hnew.1
    rw [St.colours, hact, List.map_append, List.append_assoc] at h
    exact (List.nodup_append.mp h).2.2 d.2 (List.mem_map.mpr ⟨_, hstill d hd hlt, rfl⟩) _ (by simp) e

theorem colorsFrom_pairwise (l : List Iv) : ∀ (st : St) (done : List (Iv × Nat)) (t : Nat), Inv st done t →
    (∀ s ∈ l, t ≤ s.1) → l.Pairwise (fun a b => a.1 ≤ b.1) →
    (l.zip (colorsFrom st l)).Pairwise (fun a b => b.1.1 < a.1.2 → a.2 ≠ b.2) ∧
    ∀ d ∈ done, ∀ b ∈ l.zip (colorsFrom st l), b.1.1 < d.1.2 → d.2 ≠ b.2 := by
  induction l with
  | nil => intro st done t _ _ _; exact ⟨.nil, fun _ _ _ hb => nomatch hb⟩
  | cons s rest ih =>
    intro st done t hinv hge hsorted
    obtain ⟨hinv', hne⟩ := step_inv st done t s hinv (hge s (List.mem_cons_self ..))
    have hs := List.pairwise_cons.mp hsorted
    obtain ⟨hpw, hdone⟩ := ih _ _ s.1 hinv' hs.1 hs.2
    rw [colorsFrom, List.zip_cons_cons]
    refine ⟨List.pairwise_cons.mpr ⟨hdone _ (List.mem_cons_self ..), hpw⟩, fun d hd b hb => ?_⟩
    rcases List.mem_cons.mp hb with rfl | hb
    · exact hne d hd
    · exact hdone d (List.mem_cons_of_mem _ hd) b hb

end PV.RegAlloc

import PV.Model.Strip
import PV.Proofs.Machine
/-!
Label removal preserves behaviour, for programs of direct control flow: if the lines `L` of `P` do nothing (the label lines)
and the others are `simple`, `P` and `strip P` are in a stuttering bisimulation — same registers, stack, effect trace and
halting, `strip P` at line `rho L pc`, waiting while `P` steps over its label lines.
-/
namespace PV.Strip
open PV.IC10

theorem rho_succ_kept {L : Nat → Bool} {t : Nat} (h : L t = false) : rho L (t + 1) = rho L t + 1 := by simp [rho, h]
theorem rho_succ_lab {L : Nat → Bool} {t : Nat} (h : L t = true) : rho L (t + 1) = rho L t := by simp [rho, h]

theorem rho_mono_add (L : Nat → Bool) (a d : Nat) : rho L a ≤ rho L (a + d) := by
  induction d with
  | zero => simp
  | succ d ih =>
    have : rho L (a + (d + 1)) = rho L (a + d) + (if L (a + d) then 0 else 1) := rfl
    omega

section
variable {R V : Type} {sem : Sem V} {lit : Nat → V} {L : Nat → Bool}

theorem lastIsLine_concat (front : List (Opnd R V)) (o : Opnd R V) : lastIsLine sem (front ++ [o]) = lastIsLine sem [o] := by
  induction front with
  | nil => rfl
  | cons x xs ih => rw [← ih]; cases xs <;> simp [lastIsLine]

theorem renumLast_concat (front : List (Opnd R V)) (o : Opnd R V) :
    renumLast sem lit L (front ++ [o]) = front ++ [renumOpnd sem lit L o] := by
  induction front with
  | nil => rfl
  | cons x xs ih => rw [List.cons_append, List.cons_append, ← ih]; cases xs <;> rfl

theorem lastIsLine_iff {args : List (Opnd R V)} :
    lastIsLine sem args = true ↔ ∃ front v t, args = front ++ [.num v] ∧ sem.toAddr v = some t := by
  constructor
  · intro h
    rcases List.eq_nil_or_concat args with rfl | ⟨front, o, rfl⟩
    · cases h
    · rw [List.concat_eq_append, lastIsLine_concat] at h
      cases o with
      | reg r => cases h
      | num v =>
        obtain ⟨t, ht⟩ := Option.isSome_iff_exists.mp h
        exact ⟨front, v, t, List.concat_eq_append, ht⟩
  · rintro ⟨front, v, t, rfl, ht⟩
    rw [lastIsLine_concat]
    simp [lastIsLine, ht]

theorem renum_dst (x : Instr R V) : (renum sem lit L x).dst = x.dst := by
  unfold renum; split <;> rfl

theorem renum_kind (x : Instr R V) : (renum sem lit L x).kind = x.kind := by
  unfold renum; split <;> rfl

theorem simple_plain {k : Kind} {d : Option R} {args : List (Opnd R V)} (hd : isDirect k = false) (he : isExcluded k = false) :
    simple sem ⟨k, d, args⟩ = true := by
  simp [simple, hd, he]

theorem simple_br {k : Kind} {d : Option R} {args : List (Opnd R V)} (hk : (∃ c, k = .br c) ∨ ∃ q n, k = .brq q n)
    (h : lastIsLine sem args = true) : simple sem ⟨k, d, args⟩ = true := by
  rcases hk with ⟨c, rfl⟩ | ⟨q, n, rfl⟩ <;> simp [simple, isExcluded, isDirect, h]

theorem simple_jmp {d : Option R} {v : V} (h : (sem.toAddr v).isSome = true) : simple sem ⟨.jmp, d, [.num v]⟩ = true := by
  simp [simple, isExcluded, isDirect, lastIsLine, h]

theorem jump_kind {env : Env V} {k : Kind} {vals : List V} {spv : V} {pc : Nat} {mem : Nat → V} {tr : List (Eff V)} {n : Nat}
    (h : (exec sem env k vals spv pc mem tr).next = .jump n) : isDirect k = true ∨ isExcluded k = true := by
  rcases exec_next_jump h with ⟨rfl | rfl, _⟩ | ⟨⟨c, rfl⟩ | ⟨q, neg, rfl⟩, _⟩ | ⟨⟨c, rfl⟩, _⟩
  · exact .inl rfl
  · exact .inl rfl
  · exact .inl rfl
  · exact .inl rfl
  · exact .inr rfl

/-- not for a label line: there `rho` points at the next kept line -/
theorem stripFrom_get : ∀ (P : List (Instr R V)) (base i : Nat), L (base + i) = false ∨ P.length ≤ i →
    (stripFrom sem lit L base P)[rho L (base + i) - rho L base]? = (P[i]?).map (renum sem lit L) := by
  intro P
  induction P with
  | nil => intro base i _; simp [stripFrom]
  | cons y rest ih =>
    intro base i h
    cases i with
    | zero =>
      have hl : L base = false := by simpa using h
      simp [stripFrom, hl]
    | succ i =>
      rw [show base + (i + 1) = base + 1 + i by omega] at h ⊢
      have := ih (base + 1) i (h.imp id (by simp))
      have hm := rho_mono_add L (base + 1) i
      rw [List.getElem?_cons_succ]
      cases hb : L base with
      | true =>
        simp only [stripFrom, hb, if_true]
        rwa [rho_succ_lab hb] at this
      | false =>
        simp only [stripFrom, hb, Bool.false_eq_true, if_false]
        rw [rho_succ_kept hb] at this hm
        rw [show rho L (base + 1 + i) - rho L base = (rho L (base + 1 + i) - (rho L base + 1)) + 1 by omega,
          List.getElem?_cons_succ]
        exact this

end

section
variable {R V : Type} [DecidableEq R] [Special R]
variable (sem : Sem V) (lit : Nat → V) (L : Nat → Bool)

set_option linter.unusedSectionVars false in
theorem strip_get (P : List (Instr R V)) (i : Nat) (x : Instr R V) (h : P[i]? = some x) (hl : L i = false) :
    (strip sem lit L P)[rho L i]? = some (renum sem lit L x) := by
  simpa [strip, rho, h] using stripFrom_get (sem := sem) (lit := lit) P 0 i (.inl (by simpa using hl))

omit [DecidableEq R] [Special R] in
theorem strip_get_none {P : List (Instr R V)} {i : Nat} (h : P[i]? = none) : (strip sem lit L P)[rho L i]? = none := by
  simpa [strip, rho, h] using stripFrom_get (sem := sem) (lit := lit) P 0 i (.inr (List.getElem?_eq_none_iff.mp h))

def mapNext : Next → Next
  | .jump n => .jump (rho L n)
  | x => x

def mapOut (o : Out V) : Out V := { o with next := mapNext L o.next }

variable {L}

theorem mapNext_of_no_jump {n : Next} (h : ∀ m, n ≠ .jump m) : mapNext L n = n := by
  cases n with
  | jump m => exact absurd rfl (h m)
  | _ => rfl

theorem mapNext_stops (n : Next) : (mapNext L n).stops = n.stops := by cases n <;> rfl
theorem mapNext_faultEff (n : Next) : (mapNext L n).faultEff (V := V) = n.faultEff := by cases n <;> rfl

/-- this is where a kept line is needed -/
theorem mapNext_pcAfter {pc : Nat} (hl : L pc = false) (n : Next) : (mapNext L n).pcAfter (rho L pc) = rho L (n.pcAfter pc) := by
  cases n with
  | seq => exact (rho_succ_kept hl).symm
  | _ => rfl

variable (L)

set_option linter.unusedSectionVars false in
/-- **one instruction, two line numberings**: the renumbered instruction at line `pc'` does what the original does at line
    `pc`, with its jump target renumbered -/
theorem exec_renum (env : Env V) (hlit : ∀ n, sem.toAddr (lit n) = some n) (x : Instr R V) (hs : simple sem x = true)
    (f : R → V) (spv : V) (pc pc' : Nat) (mem : Nat → V) (tr : List (Eff V)) :
    exec sem env (renum sem lit L x).kind ((renum sem lit L x).args.map (Opnd.eval f)) spv pc' mem tr =
      mapOut L (exec sem env x.kind (x.args.map (Opnd.eval f)) spv pc mem tr) := by
  obtain ⟨k, d, args⟩ := x
  simp only [simple, Bool.and_eq_true, Bool.not_eq_true', Bool.or_eq_true] at hs
  obtain ⟨hex, hdir⟩ := hs
  cases hd : isDirect k with
  | false =>
    -- not a jump: the line is kept as it is, does not look at the line number and goes nowhere
    have hj : ∀ n, (exec sem env k (args.map (Opnd.eval f)) spv pc mem tr).next ≠ .jump n := by
      intro n h
      rcases jump_kind h with h' | h'
      · rw [hd] at h'; cases h'
      · rw [hex] at h'; cases h'
    simp only [renum, hd, Bool.false_eq_true, if_false, mapOut, mapNext_of_no_jump hj]
    exact exec_pc_irrel ⟨fun e => by (subst e; cases hex), fun c e => by (subst e; cases hex)⟩ pc'
  | true =>
    have hd' : lastIsLine sem args = true ∧ (k ≠ .jmp ∨ args.length = 1) := by simpa [hd] using hdir
    obtain ⟨front, v, t, rfl, ht⟩ := lastIsLine_iff.mp hd'.1
    simp only [renum, hd, if_true, renumLast_concat, renumOpnd, ht, List.map_append, List.map_cons, List.map_nil, Opnd.eval]
    cases k
    case jmp =>
      obtain rfl : front = [] := by simpa using hd'.2
      simp [target, ht, hlit, mapOut, mapNext]
    case br | brq =>
      simp only [exec_br, exec_brq, List.dropLast_concat, List.getLastD_concat]
      split <;> simp [target, ht, hlit, mapOut, mapNext]
    case jal => cases hex
    all_goals cases hd

structure Sim (s s' : St R V) : Prop where
  regs : s'.regs = s.regs
  mem : s'.mem = s.mem
  trace : s'.trace = s.trace
  halted : s'.halted = s.halted
  pc : s'.pc = rho L s.pc

omit [DecidableEq R] [Special R] in
theorem Sim.start {L : Nat → Bool} {s : St R V} (h : s.pc = 0) : Sim L s s :=
  ⟨rfl, rfl, rfl, rfl, by rw [h]; rfl⟩

theorem applyOut_sim {L : Nat → Bool} {s s' : St R V} (h : Sim L s s') (hl : L s.pc = false) (dst : Option R) (o : Out V) :
    Sim L (applyOut s dst o) (applyOut s' dst (mapOut L o)) := by
  obtain ⟨hr, hm, ht, hh, hp⟩ := h
  rw [applyOut_eq, applyOut_eq, hr, hm, ht, hp]
  exact ⟨rfl, rfl, congrArg (· ++ (o.effs ++ s.trace)) (mapNext_faultEff o.next), mapNext_stops _, mapNext_pcAfter hl _⟩

variable (env : Env V) (P : List (Instr R V))

structure Ok : Prop where
  labels : ∀ i, L i = true → P[i]? = some ⟨.nop, none, []⟩
  simple : ∀ i x, P[i]? = some x → L i = false → simple sem x = true
  lit : ∀ n, sem.toAddr (lit n) = some n

variable {sem} {lit} {L} {env} {P}

theorem step_label (hok : Ok sem lit L P) {s s' : St R V} (h : Sim L s s') (hl : s.halted = false ∧ L s.pc = true) :
    Sim L (step sem env P s) s' := by
  rw [step_nop hl.1 (hok.labels s.pc hl.2) rfl]
  exact ⟨h.regs, h.mem, h.trace, h.halted, by rw [h.pc]; exact (rho_succ_lab hl.2).symm⟩

theorem step_kept (hok : Ok sem lit L P) {s s' : St R V} (h : Sim L s s') (hl : ¬(s.halted = false ∧ L s.pc = true)) :
    Sim L (step sem env P s) (step sem env (strip sem lit L P) s') := by
  cases hh : s.halted with
  | true =>
    rw [step_halted hh, step_halted (h.halted.trans hh)]
    exact h
  | false =>
    have hl' : L s.pc = false := by simpa [hh] using hl
    have hh' : s'.halted = false := h.halted.trans hh
    cases hi : P[s.pc]? with
    | none =>
      rw [step_none hh hi, step_none hh' (by rw [h.pc]; exact strip_get_none sem lit L hi)]
      exact ⟨h.regs, h.mem, h.trace, rfl, h.pc⟩
    | some x =>
      rw [step_eq hh hi, step_eq hh' (by rw [h.pc]; exact strip_get sem lit L P s.pc x hi hl'),
        h.regs, h.mem, h.trace, renum_dst,
        exec_renum sem lit L env hok.lit x (hok.simple s.pc x hi hl') s.regs (s.regs Special.sp) s.pc s'.pc s.mem s.trace]
      exact applyOut_sim h hl' x.dst _

variable (sem) (lit) (L) (env) (P)

/-- **every state of the labelled program is a state of the stripped one**, reached in at most as many steps -/
theorem strip_sim_fwd (hok : Ok sem lit L P) : ∀ (m : Nat) (s s' : St R V), Sim L s s' →
    ∃ k, k ≤ m ∧ Sim L (run sem env P m s) (run sem env (strip sem lit L P) k s') := by
  intro m
  induction m with
  | zero => intro s s' h; exact ⟨0, Nat.le_refl 0, h⟩
  | succ m ih =>
    intro s s' h
    by_cases hl : s.halted = false ∧ L s.pc = true
    · obtain ⟨k, hk, hs⟩ := ih _ _ (step_label hok h hl)
      exact ⟨k, by omega, hs⟩
    · obtain ⟨k, hk, hs⟩ := ih _ _ (step_kept hok h hl)
      exact ⟨k + 1, by omega, hs⟩

variable {sem} {lit} {L} {env} {P}

/-- a label line is a line of the program, so at most `P.length - s.pc` steps -/
theorem skip_labels (hok : Ok sem lit L P) : ∀ (d : Nat) {s s' : St R V}, P.length - s.pc ≤ d → Sim L s s' →
    ∃ j, Sim L (run sem env P j s) s' ∧ ¬((run sem env P j s).halted = false ∧ L (run sem env P j s).pc = true) := by
  intro d
  induction d with
  | zero =>
    intro s s' hd h
    refine ⟨0, h, fun hl => ?_⟩
    have := hok.labels s.pc hl.2
    have : s.pc < P.length := (List.getElem?_eq_some_iff.mp this).1
    omega
  | succ d ih =>
    intro s s' hd h
    by_cases hl : s.halted = false ∧ L s.pc = true
    · have hpc : (step sem env P s).pc = s.pc + 1 := by rw [step_nop hl.1 (hok.labels s.pc hl.2) rfl]
      obtain ⟨j, hj, hend⟩ := ih (by rw [hpc]; omega) (step_label hok h hl)
      exact ⟨j + 1, hj, hend⟩
    · exact ⟨0, h, hl⟩

variable (sem) (lit) (L) (env) (P)

/-- **every state of the stripped program is a state of the labelled one**, reached in at least as many steps -/
theorem strip_sim_bwd (hok : Ok sem lit L P) : ∀ (k : Nat) (s s' : St R V), Sim L s s' →
    ∃ m, k ≤ m ∧ Sim L (run sem env P m s) (run sem env (strip sem lit L P) k s') := by
  intro k
  induction k with
  | zero => intro s s' h; exact ⟨0, Nat.le_refl 0, h⟩
  | succ k ih =>
    intro s s' h
    obtain ⟨j, hj, hend⟩ := skip_labels (env := env) hok _ (Nat.le_refl _) h
    obtain ⟨m, hm, hfin⟩ := ih _ _ (step_kept hok hj hend)
    refine ⟨j + (1 + m), by omega, ?_⟩
    rw [run_add, run_add]
    exact hfin

end
end PV.Strip

import PV.Proofs.Machine
import PV.Proofs.CoreExec
import PV.Proofs.LayoutAttr
/-!
Correctness of the model code generator `PV.Core.comp` on the IC10 machine: forward simulation, indexed by the fuel of the
reference semantics.  `timeout n` ⇒ after some `k ≥ n` machine steps the chip is in a state with the same trace, so the source
trace is a prefix of the chip's behaviour and — the machine being deterministic — vice versa.  The proof follows the result of
`exec`: `Post` says what the chip does for each result, `Post.bind` follows `Res.bind`, and each continuation of
`PV/Proofs/CoreExec.lean` (`thenRun`, `again`, `leave`) has its rule.
-/
namespace PV.Core
open PV.IC10

variable {V : Type}

def CodeAt (P : List (Instr Reg V)) (base : Nat) (c : List (Instr Reg V)) : Prop :=
  ∀ i, i < c.length → P[base + i]? = c[i]?

/-- the machine state `st` is the source state `σ` at line `pc` and call depth `d`: same registers except `ra` / `sp` (which
    calls and the call stack use and a well-formed program never touches), `sp = d`, the cells below `d` hold the saved return
    addresses `stk`, the cells from `lo` on are the program's memory -/
structure At (sem : Sem V) (lo : Nat) (st : St Reg V) (σ : SSt V) (pc d : Nat) (stk : List V) : Prop where
  regs : ∀ r, r ≠ (Special.ra : Reg) → r ≠ (Special.sp : Reg) → st.regs r = σ.regs r
  sp : st.regs Special.sp = sem.ofNat d
  len : stk.length = d
  stack : ∀ i, i < d → st.mem i = stk.getD i (sem.ofNat 0)
  mem : ∀ n, lo ≤ n → st.mem n = σ.mem n
  pc : st.pc = pc
  trace : st.trace = σ.trace
  halted : st.halted = false

def mk (σ : SSt V) (pc : Nat) : St Reg V :=
  { regs := σ.regs, mem := σ.mem, pc := pc, trace := σ.trace, halted := false }

def land (e : Exit) (next cl bl rl : Nat) : Nat :=
  match e with
  | .norm => next
  | .brk => bl
  | .cont => cl
  | .ret => rl

section statement
variable (sem : Sem V) (lo : Nat) (env : Env V) (lit : Nat → V) (entry : Nat → Nat) (F : Nat → Stmt V) (P : List (Instr Reg V))
variable (rk : Nat → Nat) (okP : Nat → Prop)

/-- the procedures `k` calls have a smaller rank: no recursion, and the depth of the call stack is bounded -/
structure ProcOk (k : Nat) : Prop where
  code : CodeAt P (entry k) (compProc lit entry (F k) k)
  good : Good sem lo (fun j => okP j ∧ rk j < rk k) (F k)

/-- `ok` says which procedures `s` may call and `b` bounds their ranks: a chain of calls from `s` is at most `b` deep, and the call
    stack needs that many cells below the program's memory (`d + b ≤ lo`).  Both are quantified here, not fixed, because the
    induction hypothesis for a callee is needed at the callee's own `ok` and rank. -/
def Claim (n : Nat) (s : Stmt V) : Prop :=
  ∀ (ok : Nat → Prop) (b : Nat), (∀ k, ok k → okP k ∧ rk k < b) → Good sem lo ok s →
  ∀ (base cl bl rl : Nat) (σ : SSt V) (st : St Reg V) (d : Nat) (stk : List V), d + b ≤ lo →
    CodeAt P base (comp lit entry s base cl bl rl) → At sem lo st σ base d stk →
    (∀ e σ', exec sem env F n s σ = .ok e σ' →
        ∃ k, At sem lo (run sem env P k st) σ' (land e (base + size s) cl bl rl) d stk ∧
             (NoCall s → (run sem env P k st).regs Special.ra = st.regs Special.ra)) ∧
    (∀ σ', exec sem env F n s σ = .timeout σ' → ∃ k pc d' stk', n ≤ k ∧ At sem lo (run sem env P k st) σ' pc d' stk')

end statement

@[layout] theorem comp_length (lit : Nat → V) (entry : Nat → Nat) (s : Stmt V) (base cl bl rl : Nat) : (comp lit entry s base cl bl rl).length = size s := by
  induction s generalizing base cl bl rl <;>
    simp +arith only [comp, size, List.length_append, List.length_cons, List.length_nil, *]

theorem good_false_nocall (sem : Sem V) (lo : Nat) : ∀ s : Stmt V, Good sem lo (fun _ => False) s → NoCall s := by
  intro s
  induction s with
  | call k => intro h; exact h
  | seq p q ihp ihq => intro h; exact ⟨ihp h.1, ihq h.2⟩
  | ite c neg args p q ihp ihq => intro h; exact ⟨ihp h.2.2.1, ihq h.2.2.2⟩
  | ifThen c neg args p ihp => intro h; exact ihp h.2.2
  | «while» c neg args body ih => intro h; exact ih h.2.2
  | loop body ih => intro h; exact ih h
  | inl body ih => intro h; exact ih h
  | _ => intro _; trivial

theorem hasCall_eq_false (s : Stmt V) : hasCall s = false ↔ NoCall s := by
  induction s <;> simp only [hasCall, NoCall, Bool.or_eq_false_iff, reduceCtorEq, *]

@[layout] theorem codeAt_nil {P : List (Instr Reg V)} {base : Nat} : CodeAt P base [] ↔ True :=
  ⟨fun _ => trivial, fun _ i hi => absurd hi (Nat.not_lt_zero i)⟩

@[layout] theorem codeAt_append {P : List (Instr Reg V)} {base : Nat} {c d : List (Instr Reg V)} :
    CodeAt P base (c ++ d) ↔ CodeAt P base c ∧ CodeAt P (base + c.length) d := by
  refine ⟨fun h => ⟨fun i hi => ?_, fun i hi => ?_⟩, fun ⟨h1, h2⟩ i hi => ?_⟩
  · rw [h i (by rw [List.length_append]; omega), List.getElem?_append_left hi]
  · rw [Nat.add_assoc, h (c.length + i) (by rw [List.length_append]; omega), List.getElem?_append_right (by omega)]
    congr 1; omega
  · by_cases hl : i < c.length
    · rw [List.getElem?_append_left hl]; exact h1 i hl
    · rw [List.getElem?_append_right (by omega), ← h2 (i - c.length) (by rw [List.length_append] at hi; omega)]
      congr 1; omega

@[layout] theorem codeAt_cons {P : List (Instr Reg V)} {base : Nat} {x : Instr Reg V} {d : List (Instr Reg V)} :
    CodeAt P base (x :: d) ↔ P[base]? = some x ∧ CodeAt P (base + 1) d := by
  refine (codeAt_append (c := [x])).trans (and_congr_left fun _ => ⟨fun h => h 0 Nat.one_pos, fun h i hi => ?_⟩)
  obtain rfl : i = 0 := by simpa using hi
  exact h

attribute [layout] List.length_cons List.length_nil List.length_append and_true and_assoc

theorem CodeAt.head {P : List (Instr Reg V)} {base : Nat} {x : Instr Reg V} {d : List (Instr Reg V)} (h : CodeAt P base (x :: d)) :
    P[base]? = some x :=
  (codeAt_cons.1 h).1

theorem CodeAt.tail {P : List (Instr Reg V)} {base : Nat} {x : Instr Reg V} {d : List (Instr Reg V)} (h : CodeAt P base (x :: d)) :
    CodeAt P (base + 1) d :=
  (codeAt_cons.1 h).2

theorem codeAt_self {c : List (Instr Reg V)} : CodeAt c 0 c := by
  intro i _; simp

theorem codeAt_mid (a c b : List (Instr Reg V)) : CodeAt (a ++ c ++ b) a.length c :=
  Nat.zero_add a.length ▸ (codeAt_append.1 (codeAt_append.1 (fun i _ => by rw [Nat.zero_add])).1).2

theorem codeAt_flatten (pre : List (Instr Reg V)) (Ls : List (List (Instr Reg V))) (k : Nat) (c : List (Instr Reg V)) (h : Ls[k]? = some c) :
    CodeAt (pre ++ Ls.flatten) (pre.length + ((Ls.take k).map List.length).sum) c := by
  obtain ⟨hk, rfl⟩ := List.getElem?_eq_some_iff.1 h
  have e : pre ++ Ls.flatten = pre ++ (Ls.take k).flatten ++ Ls[k] ++ (Ls.drop (k + 1)).flatten := by
    conv => lhs; rw [← List.take_append_drop k Ls, List.drop_eq_getElem_cons hk]
    simp only [List.flatten_append, List.flatten_cons, List.append_assoc]
  rw [e, ← List.length_flatten, ← List.length_append]
  exact codeAt_mid _ _ _

theorem at_mk (sem : Sem V) (lo : Nat) (σ : SSt V) (pc : Nat) (hsp : σ.regs Special.sp = sem.ofNat 0) : At sem lo (mk σ pc) σ pc 0 [] :=
  ⟨fun _ _ _ => rfl, hsp, rfl, fun i hi => by omega, fun _ _ => rfl, rfl, rfl, rfl⟩

theorem run_one (sem : Sem V) (env : Env V) (P : List (Instr Reg V)) (s : St Reg V) : run sem env P 1 s = step sem env P s := rfl

theorem eval_ok (f g : Reg → V) (h : ∀ r, r ≠ (Special.ra : Reg) → r ≠ (Special.sp : Reg) → f r = g r) (o : Opnd Reg V) (ho : opndOk o) :
    o.eval f = o.eval g := by
  cases o with
  | reg r => exact h r ho.1 ho.2
  | num v => rfl

theorem evalArgs_ok (f g : Reg → V) (h : ∀ r, r ≠ (Special.ra : Reg) → r ≠ (Special.sp : Reg) → f r = g r) (args : List (Opnd Reg V))
    (ha : ∀ o ∈ args, opndOk o) : evalArgs f args = evalArgs g args :=
  List.map_congr_left fun o ho => eval_ok f g h o (ha o ho)

theorem getD_append_lt {α : Type} {l l' : List α} {dflt : α} {i : Nat} (h : i < l.length) : (l ++ l').getD i dflt = l.getD i dflt := by
  simp [List.getD, List.getElem?_append_left h]

theorem getD_append_len {α : Type} (l : List α) (x dflt : α) : (l ++ [x]).getD l.length dflt = x := by
  simp [List.getD]

theorem sp_ne_ra : (Special.sp : Reg) ≠ Special.ra := by decide

section steps
variable {sem : Sem V} {lo : Nat} (env : Env V) {P : List (Instr Reg V)} {st : St Reg V} {σ : SSt V} {pc d : Nat} {stk : List V} {ρ : V}

/-- `At`, with the value of `ra` named: the step lemmas thread it, so that a leaf procedure finds at its `j ra` what `jal` left -/
structure AtR (sem : Sem V) (lo : Nat) (st : St Reg V) (σ : SSt V) (pc d : Nat) (stk : List V) (ρ : V) : Prop
    extends At sem lo st σ pc d stk where
  ra : st.regs Special.ra = ρ

theorem At.step_eq (h : At sem lo st σ pc d stk) {i : Instr Reg V} (hi : P[pc]? = some i) :
    step sem env P st = applyOut st i.dst (IC10.exec sem env i.kind (evalArgs st.regs i.args) (sem.ofNat d) pc st.mem σ.trace) := by
  rw [IC10.step_eq h.halted (h.pc.symm ▸ hi), h.sp, h.pc, h.trace]; rfl

theorem AtR.write (h : AtR sem lo st σ pc d stk ρ) {x : Reg} (hx : regOk x) (v : V) (effs : List (Eff V)) (pc' : Nat) :
    AtR sem lo { regs := upd st.regs x v, mem := st.mem, pc := pc', trace := effs ++ st.trace, halted := false }
      { regs := upd σ.regs x v, mem := σ.mem, trace := effs ++ σ.trace } pc' d stk ρ where
  regs r h1 h2 := by
    show upd st.regs x v r = upd σ.regs x v r
    unfold upd; rw [h.regs r h1 h2]
  sp := (upd_ne _ _ (Ne.symm hx.2)).trans h.sp
  len := h.len
  stack := h.stack
  mem := h.mem
  pc := rfl
  trace := congrArg (effs ++ ·) h.trace
  halted := rfl
  ra := (upd_ne _ _ (Ne.symm hx.1)).trans h.ra

theorem AtR.plain (h : AtR sem lo st σ pc d stk ρ) (effs : List (Eff V)) (pc' : Nat) :
    AtR sem lo { regs := st.regs, mem := st.mem, pc := pc', trace := effs ++ st.trace, halted := false }
      { σ with trace := effs ++ σ.trace } pc' d stk ρ :=
  ⟨⟨h.regs, h.sp, h.len, h.stack, h.mem, rfl, congrArg (effs ++ ·) h.trace, rfl⟩, h.ra⟩

theorem AtR.writes (h : AtR sem lo st σ pc d stk ρ) {k : Kind} {x : Reg} {args : List (Opnd Reg V)} {v : V} {effs : List (Eff V)} (hx : regOk x)
    (ha : ∀ o ∈ args, opndOk o) (hi : P[pc]? = some ⟨k, some x, args⟩)
    (he : IC10.exec sem env k (evalArgs σ.regs args) (sem.ofNat d) pc st.mem σ.trace = { dst := some v, effs := effs }) :
    AtR sem lo (step sem env P st) { regs := upd σ.regs x v, mem := σ.mem, trace := effs ++ σ.trace } (pc + 1) d stk ρ := by
  rw [h.step_eq env hi, evalArgs_ok st.regs σ.regs h.regs args ha, he, h.pc.symm]
  exact h.write hx v effs _

theorem AtR.effects (h : AtR sem lo st σ pc d stk ρ) {k : Kind} {args : List (Opnd Reg V)} {effs : List (Eff V)} (ha : ∀ o ∈ args, opndOk o)
    (hi : P[pc]? = some ⟨k, none, args⟩)
    (he : IC10.exec sem env k (evalArgs σ.regs args) (sem.ofNat d) pc st.mem σ.trace = { effs := effs }) :
    AtR sem lo (step sem env P st) { σ with trace := effs ++ σ.trace } (pc + 1) d stk ρ := by
  rw [h.step_eq env hi, evalArgs_ok st.regs σ.regs h.regs args ha, he, h.pc.symm]
  exact h.plain effs _

theorem AtR.nop (h : AtR sem lo st σ pc d stk ρ) (hi : P[pc]? = some nopI) : AtR sem lo (step sem env P st) σ (pc + 1) d stk ρ :=
  h.effects env (effs := []) (List.forall_mem_nil _) hi rfl

theorem AtR.goto (h : AtR sem lo st σ pc d stk ρ) {n : Nat} (hs : step sem env P st = { st with pc := n }) :
    AtR sem lo (step sem env P st) σ n d stk ρ :=
  hs ▸ ⟨⟨h.regs, h.sp, h.len, h.stack, h.mem, rfl, h.trace, h.halted⟩, h.ra⟩

theorem AtR.jmp (h : AtR sem lo st σ pc d stk ρ) {lit : Nat → V} {n : Nat} (hl : sem.toAddr (lit n) = some n)
    (hi : P[pc]? = some ⟨.jmp, none, [.num (lit n)]⟩) : AtR sem lo (step sem env P st) σ n d stk ρ :=
  h.goto env (step_jmp (i := ⟨.jmp, none, [.num (lit n)]⟩) h.halted (h.pc.symm ▸ hi) rfl hl)

theorem AtR.ret (h : AtR sem lo st σ pc d stk ρ) {n : Nat} (hra : sem.toAddr ρ = some n) (hi : P[pc]? = some retI) :
    AtR sem lo (step sem env P st) σ n d stk ρ :=
  h.goto env (step_jmp (i := retI) h.halted (h.pc.symm ▸ hi) rfl (h.ra.symm ▸ hra : sem.toAddr (st.regs Special.ra) = some n))

theorem AtR.br (h : AtR sem lo st σ pc d stk ρ) {lit : Nat → V} {c : String} {args : List (Opnd Reg V)} {n : Nat} (hl : sem.toAddr (lit n) = some n)
    (ha : ∀ o ∈ args, opndOk o) (hi : P[pc]? = some ⟨.br c, none, args ++ [.num (lit n)]⟩) :
    AtR sem lo (step sem env P st) σ (if sem.cond c (evalArgs σ.regs args) then n else pc + 1) d stk ρ := by
  have hv : evalArgs st.regs (args ++ [Opnd.num (lit n)]) = evalArgs σ.regs args ++ [lit n] := by
    rw [evalArgs, List.map_append, ← evalArgs, evalArgs_ok st.regs σ.regs h.regs args ha]; rfl
  rw [h.step_eq env hi, h.pc.symm]
  simp only [exec_br, hv, List.dropLast_concat, List.getLastD_concat, target_eq_jump.2 hl]
  split
  · exact h.plain [] n
  · exact h.plain [] _

theorem AtR.brNeg (h : AtR sem lo st σ pc d stk ρ) {lit : Nat → V} {c neg : String} {args : List (Opnd Reg V)} {n : Nat}
    (hl : sem.toAddr (lit n) = some n) (ha : ∀ o ∈ args, opndOk o)
    (hneg : ∀ vals : List V, vals.length = args.length → sem.cond neg vals = !sem.cond c vals)
    (hi : P[pc]? = some ⟨.br neg, none, args ++ [.num (lit n)]⟩) :
    AtR sem lo (step sem env P st) σ (if sem.cond c (evalArgs σ.regs args) then pc + 1 else n) d stk ρ := by
  have h1 := h.br env hl ha hi
  rw [hneg (evalArgs σ.regs args) (List.length_map _)] at h1
  cases hb : sem.cond c (evalArgs σ.regs args)
  · rw [hb] at h1; exact h1
  · rw [hb] at h1; exact h1

theorem AtR.getm (h : AtR sem lo st σ pc d stk ρ) {x : Reg} {v : V} {n : Nat} (hx : regOk x) (ha : sem.toAddr v = some n) (hlo : lo ≤ n)
    (hn : n < stackSize) (hi : P[pc]? = some ⟨.getdb, some x, [.num v]⟩) :
    AtR sem lo (step sem env P st) { σ with regs := upd σ.regs x (σ.mem n) } (pc + 1) d stk ρ := by
  have e : IC10.exec sem env .getdb [v] (sem.ofNat d) pc st.mem σ.trace = { dst := some (st.mem n) } := by
    simp only [exec_getdb, ha, hn, if_true]
  rw [h.step_eq env hi, h.pc.symm]
  exact e ▸ h.mem n hlo ▸ h.write hx _ [] _

theorem AtR.putm (h : AtR sem lo st σ pc d stk ρ) {a : V} {v : Opnd Reg V} {n : Nat} (hv : opndOk v) (hd : d ≤ lo) (ha : sem.toAddr a = some n)
    (hlo : lo ≤ n) (hn : n < stackSize) (hi : P[pc]? = some ⟨.poke, none, [.num a, v]⟩) :
    AtR sem lo (step sem env P st) { σ with mem := updMem σ.mem n (v.eval σ.regs) } (pc + 1) d stk ρ := by
  have e : IC10.exec sem env .poke [a, v.eval st.regs] (sem.ofNat d) pc st.mem σ.trace = { mem := some (n, v.eval σ.regs) } := by
    simp only [exec_poke, ha, hn, if_true, eval_ok st.regs σ.regs h.regs v hv]
  rw [h.step_eq env hi, h.pc.symm]
  refine e ▸ ⟨⟨h.regs, h.sp, h.len, fun i hi' => ?_, fun m hm => ?_, rfl, h.trace, rfl⟩, h.ra⟩
  · exact (if_neg (by omega)).trans (h.stack i hi')
  · show updMem st.mem n _ m = updMem σ.mem n _ m
    unfold updMem; rw [h.mem m hm]

theorem AtR.jal (h : AtR sem lo st σ pc d stk ρ) {lit : Nat → V} {n : Nat} (hl : sem.toAddr (lit n) = some n)
    (hi : P[pc]? = some ⟨.jal, none, [.num (lit n)]⟩) : AtR sem lo (step sem env P st) σ n d stk (sem.ofNat (pc + 1)) := by
  rw [step_jal (i := ⟨.jal, none, [.num (lit n)]⟩) h.halted (h.pc.symm ▸ hi) rfl hl, h.pc]
  exact ⟨⟨fun r h1 h2 => (upd_ne st.regs _ h1).trans (h.regs r h1 h2), (upd_ne st.regs (sem.ofNat (pc + 1)) sp_ne_ra).trans h.sp, h.len, h.stack,
    h.mem, rfl, h.trace, h.halted⟩, upd_same st.regs Special.ra (sem.ofNat (pc + 1))⟩

section
variable (sem) (lo) (P) (st) (σ) (pc) (d) (stk)

theorem step_push_ra (hof : ∀ n, sem.toAddr (sem.ofNat n) = some n) (h : At sem lo st σ pc d stk) (hd : d < lo) (hlo : lo ≤ stackSize)
    (hi : P[pc]? = some pushRa) :
    At sem lo (step sem env P st) σ (pc + 1) (d + 1) (stk ++ [st.regs Special.ra]) ∧ (step sem env P st).regs Special.ra = st.regs Special.ra := by
  have e : IC10.exec sem env .push [st.regs Special.ra] (sem.ofNat d) pc st.mem σ.trace =
      { mem := some (d, st.regs Special.ra), sp := some (sem.ofNat (d + 1)) } := by
    simp only [exec_push, hof, if_pos (show d < stackSize by omega), List.headD_cons]
  have hs : step sem env P st =
      { regs := upd st.regs Special.sp (sem.ofNat (d + 1)), mem := updMem st.mem d (st.regs Special.ra), pc := pc + 1, trace := st.trace, halted := false } := by
    -- `applyOut` continues at `st.pc + 1`, the statement says `pc + 1`
    rw [h.step_eq env hi, ← h.pc]; exact congrArg (applyOut st none) (h.pc ▸ e)
  rw [hs]
  refine ⟨⟨fun r h1 h2 => (upd_ne st.regs _ h2).trans (h.regs r h1 h2), upd_same st.regs Special.sp _, by simp [h.len], fun i hi' => ?_,
    fun m hm => (if_neg (by omega)).trans (h.mem m hm), rfl, h.trace, rfl⟩, upd_ne st.regs (sem.ofNat (d + 1)) (Ne.symm sp_ne_ra)⟩
  show updMem st.mem d _ i = _
  by_cases hid : i = d
  · rw [hid, updMem_same, ← h.len, getD_append_len]
  · rw [updMem_ne hid, h.stack i (by omega), getD_append_lt (by rw [h.len]; omega)]

theorem step_pop_ra (hof : ∀ n, sem.toAddr (sem.ofNat n) = some n) (v : V) (h : At sem lo st σ pc (d + 1) (stk ++ [v])) (hd : d < lo) (hlo : lo ≤ stackSize)
    (hi : P[pc]? = some popRa) :
    At sem lo (step sem env P st) σ (pc + 1) d stk ∧ (step sem env P st).regs Special.ra = v := by
  have hlen : stk.length = d := by simpa using h.len
  have hcell : st.mem d = v := by rw [h.stack d (by omega), ← hlen, getD_append_len]
  have e : IC10.exec sem env .pop [] (sem.ofNat (d + 1)) pc st.mem σ.trace = { dst := some v, sp := some (sem.ofNat d) } := by
    simp only [exec_pop, hof, if_pos (show d < stackSize by omega), hcell]
  have hs : step sem env P st =
      { regs := upd (upd st.regs Special.sp (sem.ofNat d)) Special.ra v, mem := st.mem, pc := pc + 1, trace := st.trace, halted := false } := by
    rw [h.step_eq env hi, ← h.pc]; exact congrArg (applyOut st (some Special.ra)) (h.pc ▸ e)
  rw [hs]
  refine ⟨⟨fun r h1 h2 => ?_, ?_, hlen, fun i hi' => ?_, h.mem, rfl, h.trace, rfl⟩, upd_same (upd st.regs Special.sp (sem.ofNat d)) Special.ra v⟩
  · exact (upd_ne _ v h1).trans ((upd_ne st.regs _ h2).trans (h.regs r h1 h2))
  · exact (upd_ne _ v sp_ne_ra).trans (upd_same st.regs Special.sp _)
  · exact (h.stack i (by omega)).trans (getD_append_lt (by omega))

end

theorem AtR.push_ra (hof : ∀ n, sem.toAddr (sem.ofNat n) = some n) (h : AtR sem lo st σ pc d stk ρ) (hd : d < lo) (hlo : lo ≤ stackSize)
    (hi : P[pc]? = some pushRa) : AtR sem lo (step sem env P st) σ (pc + 1) (d + 1) (stk ++ [ρ]) ρ :=
  have ⟨h1, h2⟩ := step_push_ra sem lo env P st σ pc d stk hof h.toAt hd hlo hi
  ⟨h.ra ▸ h1, h2.trans h.ra⟩

theorem AtR.pop_ra (hof : ∀ n, sem.toAddr (sem.ofNat n) = some n) {v : V} (h : AtR sem lo st σ pc (d + 1) (stk ++ [v]) ρ) (hd : d < lo)
    (hlo : lo ≤ stackSize) (hi : P[pc]? = some popRa) : AtR sem lo (step sem env P st) σ (pc + 1) d stk v :=
  have ⟨h1, h2⟩ := step_pop_ra sem lo env P st σ pc d stk hof v h.toAt hd hlo hi
  ⟨h1, h2⟩

end steps

section post
variable (sem : Sem V) (lo : Nat) (env : Env V) (P : List (Instr Reg V))

/-- where a piece of code is embedded: the lines on which its exits land (`land`) and the call stack it runs on -/
structure Frame (V : Type) where
  (next cl bl rl d : Nat)
  stk : List V

abbrev Frame.land (f : Frame V) (e : Exit) : Nat := Core.land e f.next f.cl f.bl f.rl

/-- what the chip does from `st` when the reference semantics, with fuel `n`, gives the result: `ok e σ'` ⇒ it reaches the line where the
    exit `e` lands in the frame `f`, in a state that represents `σ'` on `f`'s call stack, with `ra = ρ` again if `keep`; `timeout σ'` ⇒
    after at least `n` steps it is in a state that represents `σ'`; `stuck` ⇒ nothing is claimed -/
def Post (n : Nat) (st : St Reg V) (ρ : V) (keep : Prop) (f : Frame V) : Res V → Prop
  | .ok e σ' => ∃ k ρ', AtR sem lo (run sem env P k st) σ' (f.land e) f.d f.stk ρ' ∧ (keep → ρ' = ρ)
  | .timeout σ' => ∃ k pc d' stk', n ≤ k ∧ At sem lo (run sem env P k st) σ' pc d' stk'
  | .stuck => True

variable {sem lo env P} {n : Nat} {st : St Reg V} {ρ : V} {keep : Prop} {f : Frame V}

/-- the same state at the same line, written otherwise.  The target `pc'` is never written: it is what the lemma applied next expects
    (the line of the instruction it names); the equation between two sums of `base`, sizes and numerals is closed by normalising both. -/
theorem AtR.at {σ : SSt V} {pc pc' d : Nat} {stk : List V} (h : AtR sem lo st σ pc d stk ρ)
    (e : pc = pc' := by simp +arith only [size, land, Frame.land]) : AtR sem lo st σ pc' d stk ρ := e ▸ h

theorem Post.there (k : Nat) {e : Exit} {σ' : SSt V} (h : AtR sem lo (run sem env P k st) σ' (f.land e) f.d f.stk ρ) :
    Post sem lo env P n st ρ keep f (.ok e σ') :=
  ⟨k, ρ, h, fun _ => rfl⟩

theorem Post.outOfFuel {σ : SSt V} {pc d : Nat} {stk : List V} {ρ' : V} (h : AtR sem lo st σ pc d stk ρ') :
    Post sem lo env P 0 st ρ keep f (.timeout σ) :=
  ⟨0, pc, d, stk, Nat.le_refl 0, h.toAt⟩

/-- the chip may take `j` steps first; they count towards the steps owed for the fuel -/
theorem Post.steps (j : Nat) {r : Res V} {n' : Nat} (h : Post sem lo env P n (run sem env P j st) ρ keep f r) (hn : n' ≤ n + j) :
    Post sem lo env P n' st ρ keep f r := by
  cases r with
  | ok e σ' =>
    obtain ⟨k, ρ', h1, h2⟩ := h
    exact ⟨j + k, ρ', IC10.run_add j k st ▸ h1, h2⟩
  | timeout σ' =>
    obtain ⟨k, pc, d', stk', hk, h1⟩ := h
    exact ⟨j + k, pc, d', stk', by omega, IC10.run_add j k st ▸ h1⟩
  | stuck => trivial

theorem Post.mono {r : Res V} {n' : Nat} (h : Post sem lo env P n st ρ keep f r) (hn : n' ≤ n) : Post sem lo env P n' st ρ keep f r :=
  h.steps 0 hn

theorem Post.after (j : Nat) {r : Res V} (h : Post sem lo env P n (run sem env P j st) ρ keep f r) : Post sem lo env P n st ρ keep f r :=
  h.steps j (Nat.le_add_right n j)

/-- as for `AtR.at`: the frame `f'` is what the lemma this is handed to expects -/
theorem Post.to {r : Res V} {f' : Frame V} (h : Post sem lo env P n st ρ keep f r)
    (e : f = f' := by simp +arith only [size, Frame.mk.injEq, and_self]) : Post sem lo env P n st ρ keep f' r := e ▸ h

theorem Post.weaken {r : Res V} {keep' : Prop} {ρ' : V} (h : Post sem lo env P n st ρ keep f r) (hk : keep' → keep ∧ ρ = ρ') :
    Post sem lo env P n st ρ' keep' f r := by
  cases r with
  | ok e σ' =>
    obtain ⟨k, ρ1, h1, h2⟩ := h
    exact ⟨k, ρ1, h1, fun h => (h2 (hk h).1).trans (hk h).2⟩
  | _ => exact h

theorem Post.bind {r : Res V} {g : Exit → SSt V → Res V} {f1 : Frame V} (h : Post sem lo env P n st ρ keep f1 r)
    (hg : ∀ e σ1 st1 ρ1, (keep → ρ1 = ρ) → AtR sem lo st1 σ1 (f1.land e) f1.d f1.stk ρ1 → Post sem lo env P n st1 ρ1 keep f (g e σ1)) :
    Post sem lo env P n st ρ keep f (r.bind g) := by
  cases r with
  | ok e σ1 =>
    obtain ⟨k, ρ1, h1, h2⟩ := h
    exact ((hg e σ1 _ ρ1 h2 h1).after k).weaken fun hk => ⟨hk, h2 hk⟩
  | _ => exact h

theorem Post.andThen {r : Res V} {f1 : Frame V} (h : Post sem lo env P n st ρ keep f1 r)
    (hg : ∀ e σ1 st1 ρ1, AtR sem lo st1 σ1 (f1.land e) f1.d f1.stk ρ1 → Post sem lo env P n st1 ρ1 keep f (.ok e σ1)) :
    Post sem lo env P n st ρ keep f r := by
  have := h.bind fun e σ1 st1 ρ1 _ => hg e σ1 st1 ρ1
  cases r <;> exact this

theorem Post.leave {r : Res V} {f1 : Frame V} (h : Post sem lo env P n st ρ keep f1 r) (hrl : f1.rl = f1.next)
    (hback : ∀ σ1 st1 ρ1, (keep → ρ1 = ρ) → AtR sem lo st1 σ1 f1.next f1.d f1.stk ρ1 → Post sem lo env P n st1 ρ1 keep f (.done σ1)) :
    Post sem lo env P n st ρ keep f (r.bind Core.leave) := by
  refine h.bind fun e σ1 st1 ρ1 hρ h1 => ?_
  cases e with
  | norm => exact hback σ1 st1 ρ1 hρ h1
  | ret => exact hback σ1 st1 ρ1 hρ (hrl ▸ h1)
  | _ => trivial

/-- one round of a loop whose body has run in the frame `⟨j, base, j + 1, …⟩`: its normal end is the line `j` of the jump back,
    `continue` goes to the start label `base`, `break` to the end label `j + 1` -/
theorem Post.again {lit : Nat → V} {j base : Nat} {r : Res V} {rest : SSt V → Res V}
    (hlit : ∀ n, sem.toAddr (lit n) = some n) (h : Post sem lo env P n st ρ keep ⟨j, base, j + 1, f.rl, f.d, f.stk⟩ r)
    (hjmp : P[j]? = some ⟨.jmp, none, [.num (lit base)]⟩) (hend : P[j + 1]? = some nopI) (hnext : j + 1 + 1 = f.next)
    (hrest : ∀ σ1 st1 ρ1, AtR sem lo st1 σ1 base f.d f.stk ρ1 → Post sem lo env P n st1 ρ1 keep f (rest σ1)) :
    Post sem lo env P n st ρ keep f (r.bind (Core.again rest)) := by
  refine h.bind fun e σ1 st1 ρ1 _ h1 => ?_
  cases e with
  | norm => exact (hrest σ1 _ ρ1 (h1.jmp env (hlit base) hjmp)).after 1
  | cont => exact hrest σ1 st1 ρ1 h1
  | brk => exact Post.there 1 ((h1.nop env hend).at hnext)
  | ret => exact Post.there 0 h1

end post

section sim
variable (sem : Sem V) (lo : Nat) (env : Env V) (lit : Nat → V) (entry : Nat → Nat) (F : Nat → Stmt V) (P : List (Instr Reg V))
variable (rk : Nat → Nat) (okP : Nat → Prop)

/-- `Claim`, stated once by the result of `exec`.  `ρ` is the value of `ra`: it is kept across a statement that calls nothing,
    which is how a leaf procedure, compiled without `push ra` / `pop ra`, finds at its `j ra` what the `jal` left -/
def Sound (n : Nat) (s : Stmt V) : Prop :=
  ∀ {ok : Nat → Prop} {b : Nat}, (∀ k, ok k → okP k ∧ rk k < b) → Good sem lo ok s →
  ∀ {base cl bl rl : Nat} {σ : SSt V} {st : St Reg V} {d : Nat} {stk : List V} {ρ : V}, d + b ≤ lo →
    CodeAt P base (comp lit entry s base cl bl rl) → AtR sem lo st σ base d stk ρ →
    Post sem lo env P n st ρ (NoCall s) ⟨base + size s, cl, bl, rl, d, stk⟩ (exec sem env F n s σ)

theorem Sound.claim {n : Nat} {s : Stmt V} (h : Sound sem lo env lit entry F P rk okP n s) : Claim sem lo env lit entry F P rk okP n s := by
  intro ok b hokb hg base cl bl rl σ st d stk hdb hc hat
  have hp := h hokb hg hdb hc ⟨hat, rfl⟩
  refine ⟨fun e σ' he => ?_, fun σ' he => ?_⟩
  · rw [he] at hp
    obtain ⟨k, ρ', h1, h2⟩ := hp
    exact ⟨k, h1.toAt, fun hnc => h1.ra.trans (h2 hnc)⟩
  · rw [he] at hp
    exact hp

variable {sem lo env lit entry F P rk okP}

theorem sound (hlit : ∀ n, sem.toAddr (lit n) = some n) (hof : ∀ n, sem.toAddr (sem.ofNat n) = some n) (hlo : lo ≤ stackSize)
    (hokP : ∀ k, okP k → ProcOk sem lo lit entry F P rk okP k) (n : Nat) : ∀ s, Sound sem lo env lit entry F P rk okP n s := by
  induction n using Nat.strongRecOn with | _ n hprev => ?_
  intro s ok b hokb hg base cl bl rl σ st d stk ρ hdb hc hat
  induction s generalizing base cl bl rl σ st d stk ρ with
  | alu x op args => rw [exec_alu]; exact Post.there 1 (hat.writes env (effs := []) hg.1 hg.2 hc.head rfl)
  | load x q args => rw [exec_load]; exact Post.there 1 (hat.writes env (effs := []) hg.1 hg.2 hc.head rfl)
  | store q args => rw [exec_store]; exact Post.there 1 (hat.effects env (effs := [_]) hg hc.head rfl)
  | yield => rw [exec_yield]; exact Post.there 1 (hat.effects env (effs := [_]) (List.forall_mem_nil _) hc.head rfl)
  | sleep a => rw [exec_sleep]; exact Post.there 1 (hat.effects env (effs := [_]) (List.forall_mem_singleton.2 hg) hc.head rfl)
  | skip => rw [exec_skip]; exact Post.there 0 hat
  | brk => rw [exec_brk]; exact Post.there 1 (hat.jmp env (hlit bl) hc.head)
  | cont => rw [exec_cont]; exact Post.there 1 (hat.jmp env (hlit cl) hc.head)
  | ret => rw [exec_ret]; exact Post.there 1 (hat.jmp env (hlit rl) hc.head)
  | seq p q ihp ihq =>
    simp +arith only [comp, layout] at hc
    rw [exec_seq]
    refine ((ihp hg.1 hdb hc.1 hat).weaken fun h => ⟨h.1, rfl⟩).bind fun e σ1 st1 ρ1 _ h1 => ?_
    cases e with
    | norm => exact Nat.add_assoc base _ _ ▸ (ihq hg.2 hdb hc.2 h1).weaken fun h => ⟨h.2, rfl⟩
    | _ => exact Post.there 0 h1
  | getm x a =>
    cases a with
    | reg r => exact hg.2.elim
    | num v =>
      obtain ⟨hx, m, ha, hlom, hm⟩ := hg
      rw [exec_getm ha hm]
      exact Post.there 1 (hat.getm env hx ha hlom hm hc.head)
  | putm a v =>
    cases a with
    | reg r => exact hg.1.elim
    | num w =>
      obtain ⟨⟨m, ha, hlom, hm⟩, hv⟩ := hg
      rw [exec_putm ha hm]
      exact Post.there 1 (hat.putm env hv (by omega) ha hlom hm hc.head)
  | ite c neg args p q ihp ihq =>
    obtain ⟨hneg, hargs, hgp, hgq⟩ := hg
    simp +arith only [comp, layout] at hc
    obtain ⟨hbr, hcp, hjmp, helse, hcq, hend⟩ := hc
    have h1 := hat.brNeg env (hlit _) hargs hneg hbr
    rw [exec_ite]
    split
    next hb =>
      rw [if_pos hb] at h1
      refine (((ihp hgp hdb hcp h1).weaken fun h => ⟨h.1, rfl⟩).andThen fun e σ1 st1 ρ1 h2 => ?_).after 1
      cases e with
      | norm => exact Post.there 2 (((h2.at.jmp env (hlit _) hjmp).nop env hend).at)
      | _ => exact Post.there 0 h2
    next hb =>
      rw [if_neg hb] at h1
      refine (((ihq hgq hdb hcq (h1.nop env helse).at).weaken fun h => ⟨h.2, rfl⟩).andThen fun e σ1 st1 ρ1 h2 => ?_).after 2
      cases e with
      | norm => exact Post.there 1 (h2.at.nop env hend).at
      | _ => exact Post.there 0 h2
  | ifThen c neg args p ihp =>
    obtain ⟨hneg, hargs, hgp⟩ := hg
    simp +arith only [comp, layout] at hc
    obtain ⟨hbr, hcp, hl1, hl2⟩ := hc
    have h1 := hat.brNeg env (hlit _) hargs hneg hbr
    rw [exec_ifThen]
    split
    next hb =>
      rw [if_pos hb] at h1
      refine ((ihp hgp hdb hcp h1).andThen fun e σ1 st1 ρ1 h2 => ?_).after 1
      cases e with
      | norm => exact Post.there 2 (((h2.at.nop env hl1).nop env hl2).at)
      | _ => exact Post.there 0 h2
    next hb =>
      rw [if_neg hb] at h1
      exact Post.there 3 (((h1.nop env hl1).nop env hl2).at)
  | «while» c neg args body ih =>
    have hc' := hc
    simp +arith only [comp, layout] at hc
    obtain ⟨hlab, hbr, hcb, hjmp, hend⟩ := hc
    cases n with
    | zero => rw [exec_while_zero]; exact Post.outOfFuel hat
    | succ m =>
      have h2 := (hat.nop env hlab).brNeg env (hlit _) hg.2.1 hg.1 hbr
      rw [exec_while_succ]
      split
      next hb =>
        rw [if_pos hb] at h2
        -- the body runs with the same fuel, the next round with one unit less: the two steps taken so far (label, branch) pay for it
        refine Post.steps 2 ?_ (Nat.le_succ _)
        refine Post.again hlit ((ih hg.2.2 hdb hcb h2).mono (Nat.le_succ m)).to hjmp hend ?_ fun σ1 st1 ρ1 h3 => ?_
        · simp +arith only [size]
        · exact hprev m (Nat.lt_succ_self m) _ hokb hg hdb hc' h3
      next hb =>
        rw [if_neg hb] at h2
        exact Post.there 3 ((h2.nop env hend).at)
  | loop body ih =>
    have hc' := hc
    simp +arith only [comp, layout] at hc
    obtain ⟨hlab, hcb, hjmp, hend⟩ := hc
    cases n with
    | zero => rw [exec_loop_zero]; exact Post.outOfFuel hat
    | succ m =>
      rw [exec_loop_succ]
      refine Post.steps 1 ?_ (Nat.le_refl _)
      exact Post.again hlit ((ih hg hdb hcb (hat.nop env hlab)).mono (Nat.le_succ m)).to hjmp hend (by simp +arith only [size])
        fun σ1 st1 ρ1 h3 => hprev m (Nat.lt_succ_self m) _ hokb hg hdb hc' h3
  | inl body ih =>
    simp +arith only [comp, layout] at hc
    obtain ⟨hlab, hcb, hend⟩ := hc
    rw [exec_inl]
    exact Post.after 1 (Post.leave (f1 := ⟨base + size body + 1, cl, bl, base + size body + 1, d, stk⟩) (ih hg hdb hcb (hat.nop env hlab)).to rfl
      fun σ1 st1 ρ1 _ h1 => Post.there 1 (h1.nop env hend).at)
  | call j =>
    obtain ⟨hjok, hjrk⟩ := hokb j hg
    have hp := hokP j hjok
    cases n with
    | zero => rw [exec_call_zero]; exact Post.outOfFuel hat
    | succ m =>
      have h1 := hat.jal env (hlit _) hc.head
      have hcode := hp.code
      have hbody := @hprev m (Nat.lt_succ_self m) (F j) _ (rk j) (fun k h => h) hp.good
      rw [exec_call_succ]
      unfold compProc at hcode
      split at hcode
      next hcall =>
        simp +arith only [layout] at hcode
        obtain ⟨hlab, hpush, hcb, hend, hpop, hret⟩ := hcode
        have h3 := (h1.nop env hlab).push_ra env hof (by omega) hlo hpush
        -- the three steps taken so far (jal, label, push) pay for the unit of fuel the call consumes
        refine Post.steps 3 (Post.leave (f1 := ⟨entry j + size (F j) + 2, 0, 0, entry j + size (F j) + 2, d + 1, stk ++ [sem.ofNat (base + 1)]⟩)
          ((hbody (by omega) hcb h3.at).weaken False.elim).to rfl fun σ1 st1 ρ1 _ h4 => ?_) (Nat.le_add_right (m + 1) 2)
        exact (Post.there (keep := False) 3 (((h4.nop env hend).pop_ra env hof (by omega) hlo hpop).ret env (hof _) hret)).weaken False.elim
      next hcall =>
        -- a leaf procedure: the two steps before the body (jal, label) pay for the unit of fuel
        have hleaf : NoCall (F j) := (hasCall_eq_false (F j)).1 (by simpa using hcall)
        simp +arith only [layout] at hcode
        obtain ⟨hlab, hcb, hend, hret⟩ := hcode
        refine Post.steps 2 (Post.weaken (Post.leave (f1 := ⟨entry j + size (F j) + 1, 0, 0, entry j + size (F j) + 1, d, stk⟩)
          (hbody (by omega) hcb (h1.nop env hlab)).to rfl fun σ1 st1 ρ1 hρ h4 => ?_) False.elim) (Nat.le_add_right (m + 1) 1)
        -- `ra` still holds what `jal` left, since the body calls nothing
        exact Post.there 2 ((h4.nop env hend).ret env (hρ hleaf ▸ hof _) hret)

theorem sound_main (hlit : ∀ n, sem.toAddr (lit n) = some n) (hof : ∀ n, sem.toAddr (sem.ofNat n) = some n) (hlo : lo ≤ stackSize)
    (hokP : ∀ k, okP k → ProcOk sem lo lit entry F P rk okP k) {main : Stmt V} {ok : Nat → Prop} {b : Nat} (hokb : ∀ k, ok k → okP k ∧ rk k < b)
    (hg : Good sem lo ok main) (hb : b ≤ lo) (hc : CodeAt P 0 (comp lit entry main 0 0 0 0)) (n : Nat) (σ : SSt V)
    (hsp : σ.regs Special.sp = sem.ofNat 0) :
    Post sem lo env P n (mk σ 0) (σ.regs Special.ra) (NoCall main) ⟨size main, 0, 0, 0, 0, []⟩ (exec sem env F n main σ) :=
  Nat.zero_add (size main) ▸ sound hlit hof hlo hokP n main hokb hg (by omega) hc ⟨at_mk sem lo σ 0 hsp, rfl⟩

theorem sound_closed (hlit : ∀ n, sem.toAddr (lit n) = some n) (hof : ∀ n, sem.toAddr (sem.ofNat n) = some n) (hlo : lo ≤ stackSize) {p : Stmt V}
    (hgood : Good sem lo (fun _ => False) p) (hc : CodeAt P 0 (comp lit entry p 0 0 0 0)) (n : Nat) (σ : SSt V) (hsp : σ.regs Special.sp = sem.ofNat 0) :
    Post sem lo env P n (mk σ 0) (σ.regs Special.ra) (NoCall p) ⟨size p, 0, 0, 0, 0, []⟩ (exec sem env F n p σ) :=
  sound_main (rk := fun _ => 0) (okP := fun _ => False) hlit hof hlo (fun _ => False.elim) (fun _ => False.elim) hgood (Nat.zero_le lo) hc n σ hsp

variable (sem lo env lit entry F P rk okP)

/-- `sound` with the cases of `Post` spelt out on `At`, without `AtR` and `Frame`: the statement that the documents quote and the
    checks audit -/
theorem sim (hlit : ∀ n, sem.toAddr (lit n) = some n) (hof : ∀ n, sem.toAddr (sem.ofNat n) = some n) (hlo : lo ≤ stackSize)
    (hokP : ∀ k, okP k → ProcOk sem lo lit entry F P rk okP k) :
    ∀ n s, Claim sem lo env lit entry F P rk okP n s :=
  fun n s => Sound.claim sem lo env lit entry F P rk okP (sound hlit hof hlo hokP n s)

end sim

end PV.Core

import PV.Model.Leaf
import PV.Proofs.Cfg
/-!
Leaf functions return to their caller (C06, static part): inside a body accepted by `checkLeaf` no step changes `ra`, and the
only way out is the return `j ra`.  Nothing here says that the line `ra` holds lies outside the body, or that the run ever
leaves the body.
-/
namespace PV.Leaf
open PV.IC10

section
variable {R V : Type} [DecidableEq R] [Special R]
variable (sem : Sem V) (env : Env V) (P : List (Instr R V)) (lo hi : Nat)

def Inside (t : St R V) : Prop := t.halted = false ∧ lo ≤ t.pc ∧ t.pc < hi

variable {sem} {P} {lo} {hi} in
theorem checkLeaf_line (h : checkLeaf sem P lo hi = true) {pc : Nat} (h1 : lo ≤ pc) (h2 : pc < hi) :
    ∃ i, P[pc]? = some i ∧ lineOk sem lo hi pc i = true := by
  unfold checkLeaf at h
  rw [List.all_eq_true] at h
  have := h (pc - lo) (by simp; omega)
  have e : lo + (pc - lo) = pc := by omega
  rw [e] at this
  cases hp : P[pc]? with
  | none => rw [hp] at this; cases this
  | some i => rw [hp] at this; exact ⟨i, rfl, this⟩

theorem isRet_spec {i : Instr R V} (h : isRet i = true) : i.kind = .jmp ∧ i.args = [.reg Special.ra] := by
  simp only [isRet, Bool.and_eq_true, beq_iff_eq] at h
  refine ⟨h.1, ?_⟩
  match hargs : i.args, h.2 with
  | [.reg r], hr => rw [of_decide_eq_true hr]

theorem leaf_step (hsp : (Special.sp : R) ≠ Special.ra) (hck : checkLeaf sem P lo hi = true) (t : St R V) (hin : Inside lo hi t) :
    (step sem env P t).regs Special.ra = t.regs Special.ra ∧
    ((step sem env P t).halted = true ∨ Inside lo hi (step sem env P t) ∨
      (∃ a, sem.toAddr (t.regs Special.ra) = some a ∧ step sem env P t = { t with pc := a })) := by
  obtain ⟨hh, h1, h2⟩ := hin
  obtain ⟨i, hi', hok⟩ := checkLeaf_line hck h1 h2
  simp only [lineOk, Bool.and_eq_true, bne_iff_ne, ne_eq, Bool.or_eq_true] at hok
  obtain ⟨⟨hjal, hdst⟩, hctl⟩ := hok
  constructor
  · rw [step_eq hh hi', applyOut_eq]
    exact writeBack_frame _ _ _ _ (.inr hsp.symm) (.inl (by rw [exec_ra, if_neg hjal])) (.inr hdst)
  · rcases hctl with hret | hsucc
    · obtain ⟨hk, ha⟩ := isRet_spec hret
      cases hta : sem.toAddr (t.regs Special.ra) with
      | none =>
        left
        rw [step_eq hh hi', applyOut_eq, hk, ha]
        simp [Opnd.eval, target, hta]
      | some a => exact .inr (.inr ⟨a, rfl, step_jmp hh hi' hk (by rw [ha]; exact hta)⟩)
    · cases hs : PV.Cfg.succs sem t.pc i with
      | none => rw [hs] at hsucc; cases hsucc
      | some l =>
        rw [hs, List.all_eq_true] at hsucc
        cases hh' : (step sem env P t).halted with
        | true => exact .inl rfl
        | false =>
          have := hsucc _ ((PV.Cfg.step_pc_mem_succs sem env P t i l hh hi' hs).resolve_left (by simp [hh']))
          simp only [inside, Bool.and_eq_true, decide_eq_true_eq] at this
          exact .inr (.inl ⟨hh', this⟩)

/-- a run from inside a leaf body stays inside (or stopped) with `ra` intact, for ever or until one step is the return to the line the
    entry `ra` holds -/
theorem leaf_run (hsp : (Special.sp : R) ≠ Special.ra) (hck : checkLeaf sem P lo hi = true) (s : St R V) (hin : Inside lo hi s) (n : Nat) :
    (∀ k, k ≤ n → (run sem env P k s).regs Special.ra = s.regs Special.ra ∧
                 ((run sem env P k s).halted = true ∨ Inside lo hi (run sem env P k s))) ∨
    (∃ k a, k < n ∧
      (∀ j, j ≤ k → (run sem env P j s).regs Special.ra = s.regs Special.ra ∧
                 ((run sem env P j s).halted = true ∨ Inside lo hi (run sem env P j s))) ∧
      Inside lo hi (run sem env P k s) ∧ sem.toAddr (s.regs Special.ra) = some a ∧
      run sem env P (k + 1) s = { run sem env P k s with pc := a }) := by
  induction n with
  | zero =>
    left
    intro k hk
    obtain rfl : k = 0 := by omega
    exact ⟨rfl, .inr hin⟩
  | succ n ih =>
    rcases ih with hall | ⟨k, a, hk, h⟩
    · obtain ⟨hra, hst⟩ := hall n (Nat.le_refl n)
      have extend : (step sem env P (run sem env P n s)).regs Special.ra = (run sem env P n s).regs Special.ra →
          ((step sem env P (run sem env P n s)).halted = true ∨ Inside lo hi (step sem env P (run sem env P n s))) →
          ∀ k, k ≤ n + 1 → (run sem env P k s).regs Special.ra = s.regs Special.ra ∧
            ((run sem env P k s).halted = true ∨ Inside lo hi (run sem env P k s)) := by
        intro h1 h2 k hk
        by_cases hkn : k ≤ n
        · exact hall k hkn
        · obtain rfl : k = n + 1 := by omega
          rw [run_add n 1]
          exact ⟨h1.trans hra, h2⟩
      rcases hst with hhalt | hins
      · rw [step_halted hhalt] at extend
        exact .inl (extend rfl (.inl hhalt))
      · obtain ⟨hra', hh | hin' | ⟨a, hta, hret⟩⟩ := leaf_step sem env P lo hi hsp hck _ hins
        · exact .inl (extend hra' (.inl hh))
        · exact .inl (extend hra' (.inr hin'))
        · exact .inr ⟨n, a, by omega, hall, hins, hra ▸ hta, by rw [run_add n 1]; exact hret⟩
    · exact .inr ⟨k, a, by omega, h⟩

/-- **a run from inside a leaf body stays inside with `ra` intact, or one of its steps was the return to the entry `ra`** -/
theorem leaf_returns (hsp : (Special.sp : R) ≠ Special.ra) (hck : checkLeaf sem P lo hi = true) (s : St R V) (hin : Inside lo hi s) :
    ∀ n, (∀ k, k ≤ n → (run sem env P k s).regs Special.ra = s.regs Special.ra ∧
                 ((run sem env P k s).halted = true ∨ Inside lo hi (run sem env P k s))) ∨
         (∃ k a, k < n ∧ Inside lo hi (run sem env P k s) ∧ sem.toAddr (s.regs Special.ra) = some a ∧
                 run sem env P (k + 1) s = { run sem env P k s with pc := a }) :=
  fun n => (leaf_run sem env P lo hi hsp hck s hin n).imp_right fun ⟨k, a, hk, _, h⟩ => ⟨k, a, hk, h⟩

set_option linter.unusedVariables false in -- `hd` is not needed: a `jal` outcome carries no destination value
/-- **a call to a leaf function comes back to the line after the call**: the `jal` at line `c` enters the body at `lo` with
    `ra = c + 1`; whenever the run leaves the body it does so through `j ra`, at line `c + 1`, and nothing but the program
    counter changes in that step -/
theorem call_leaf_returns (hsp : (Special.sp : R) ≠ Special.ra) (hck : checkLeaf sem P lo hi = true)
    (hof : ∀ n, sem.toAddr (sem.ofNat n) = some n) (hlo : lo < hi)
    (s : St R V) (c : Nat) (v : V) (d : Option R) (rest : List (Opnd R V)) (hh : s.halted = false) (hpc : s.pc = c)
    (hi' : P[c]? = some ⟨.jal, d, Opnd.num v :: rest⟩) (hv : sem.toAddr v = some lo) (hd : d ≠ some Special.ra) :
    Inside lo hi (step sem env P s) ∧ (step sem env P s).regs Special.ra = sem.ofNat (c + 1) ∧
    ∀ n, (∀ k, k ≤ n → (run sem env P (k + 1) s).halted = true ∨ Inside lo hi (run sem env P (k + 1) s)) ∨
         (∃ k, k < n ∧ Inside lo hi (run sem env P (k + 1) s) ∧
                 run sem env P (k + 2) s = { run sem env P (k + 1) s with pc := c + 1 }) := by
  subst hpc
  have hstep := step_jal (env := env) hh hi' rfl (n := lo) hv
  have hins : Inside lo hi (step sem env P s) := by rw [hstep]; exact ⟨hh, Nat.le_refl lo, hlo⟩
  have hregs : (step sem env P s).regs Special.ra = sem.ofNat (s.pc + 1) := by rw [hstep]; exact upd_same _ _ _
  refine ⟨hins, hregs, fun n => ?_⟩
  rcases leaf_returns sem env P lo hi hsp hck (step sem env P s) hins n with hall | ⟨k, a, hk, hin, hta, hr⟩
  · exact .inl fun k hk => (hall k hk).2
  · rw [hregs, hof] at hta
    obtain rfl : s.pc + 1 = a := by injection hta
    exact .inr ⟨k, hk, hin, hr⟩

end
end PV.Leaf

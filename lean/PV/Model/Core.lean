import PV.IC10.Machine
/-
The core sub-language of C01 at three-address level, and the model code generator for it.

A core program is what the transpiler's front end leaves of a source program after expression flattening:
register-to-register ALU operations, device reads and writes, `yield` / `sleep`, structured control flow —
`if`/`else` on a comparison, `while` on a comparison, `while True` — and functions, as procedures (`call` / `ret`) or as bodies
inlined at their only call site (`inl`).  `comp` lays the code out exactly as
`CompilerPassGatherCode` does, including the label lines (which occupy a line and execute as no-ops):

    if c(a,b): S else: T      b‹neg c› a b ELSE ; S ; j END ; ELSE: ; T ; END:      (`if x:` is `beqz x ELSE`)
    if c(a,b): S              b‹neg c› a b ELSE ; S ; ELSE: ; END:
    while c(a,b): S           LOOP: ; b‹neg c› a b END ; S ; j LOOP ; END:
    while True: S             LOOP: ; S ; j LOOP ; END:
    break / continue          j END / j LOOP   (of the innermost enclosing loop)

Jump targets are absolute line numbers (the labelled program with label lines counted).  No Mathlib: linked into `pvdrv`.
-/
namespace PV.Core
open PV.IC10

abbrev Reg := Nat
instance : Special Reg := ⟨16, 17⟩

inductive Stmt (V : Type) where
  | alu (x : Reg) (op : String) (args : List (Opnd Reg V))
  | load (x : Reg) (q : String) (args : List (Opnd Reg V))
  | store (q : String) (args : List (Opnd Reg V))
  | yield
  | sleep (a : Opnd Reg V)
  | skip
  | seq (s t : Stmt V)
  /-- `neg` is the condition suffix of the emitted branch (taken when the source condition `c` is false); `args` are the
      compared operands: two for `if a < b`, one for `if x` (`c = "nez"`, emitted `beqz x`) -/
  | ite (c neg : String) (args : List (Opnd Reg V)) (s t : Stmt V)
  | ifThen (c neg : String) (args : List (Opnd Reg V)) (s : Stmt V)
  | while (c neg : String) (args : List (Opnd Reg V)) (body : Stmt V)
  | loop (body : Stmt V)
  /-- `break` / `continue` of the innermost enclosing `while` / `loop` -/
  | brk
  | cont
  /-- the chip's own stack used as memory: `x = stack[a]` (`get x db a`) and `stack[a] = v` (`put db a v`) -/
  | getm (x : Reg) (a : Opnd Reg V)
  | putm (a v : Opnd Reg V)
  /-- call of procedure `k` (`jal` to its entry label); arguments and results travel through stack cells (`putm` / `getm`) -/
  | call (k : Nat)
  /-- `return` that is not the last statement of a procedure body: jump to the procedure's end label -/
  | ret
  /-- the body of a function inlined at its only call site: `f: ; body ; fend:` — a `return` inside jumps to `fend` -/
  | inl (body : Stmt V)

/-- source-level state: registers (one per variable / temporary), the stack memory, and the effects so far, newest first -/
structure SSt (V : Type) where
  regs : Reg → V
  mem : Nat → V
  trace : List (Eff V)

/-- how a statement ends: normally, by `break`, by `continue`, by `return` -/
inductive Exit where
  | norm | brk | cont | ret
  deriving DecidableEq, Repr

inductive Res (V : Type) where
  | ok (e : Exit) (s : SSt V)
  | timeout (s : SSt V)      -- out of fuel: the state reached so far (its trace is a prefix of the behaviour)
  | stuck                    -- a stack address outside the stack: the reference semantics has no answer (outside the domain)

@[match_pattern] abbrev Res.done {V : Type} (s : SSt V) : Res V := .ok .norm s

section sem
variable {V : Type} (sem : Sem V) (env : Env V) (F : Nat → Stmt V)

def evalArgs (f : Reg → V) (args : List (Opnd Reg V)) : List V := args.map (Opnd.eval f)

/-- reference semantics; fuel is consumed at loop iterations only -/
def exec : Nat → Stmt V → SSt V → Res V
  | _, .alu x op args, s => .done { s with regs := upd s.regs x (sem.alu op (evalArgs s.regs args)) }
  | _, .load x q args, s => .done { s with regs := upd s.regs x (env s.trace q (evalArgs s.regs args)) }
  | _, .store q args, s => .done { s with trace := ⟨q, evalArgs s.regs args⟩ :: s.trace }
  | _, .yield, s => .done { s with trace := ⟨"yield", []⟩ :: s.trace }
  | _, .sleep a, s => .done { s with trace := ⟨"sleep", [a.eval s.regs]⟩ :: s.trace }
  | _, .skip, s => .done s
  | _, .getm x a, s =>
      match sem.toAddr (a.eval s.regs) with
      | some n => if n < stackSize then .done { s with regs := upd s.regs x (s.mem n) } else .stuck
      | none => .stuck
  | _, .putm a v, s =>
      match sem.toAddr (a.eval s.regs) with
      | some n => if n < stackSize then .done { s with mem := updMem s.mem n (v.eval s.regs) } else .stuck
      | none => .stuck
  | _, .brk, s => .ok .brk s
  | _, .cont, s => .ok .cont s
  | _, .ret, s => .ok .ret s
  | n, .inl body, s =>
      match exec n body s with
      | .ok .norm s' => .done s'
      | .ok .ret s' => .done s'
      | .ok _ _ => .stuck
      | r => r
  | 0, .call _, s => .timeout s
  | n + 1, .call k, s =>
      -- the body runs on the same registers; it ends normally or by `return`; a `break` / `continue` that would leave it is
      -- outside the domain
      match exec n (F k) s with
      | .ok .norm s' => .done s'
      | .ok .ret s' => .done s'
      | .ok _ _ => .stuck
      | r => r
  | n, .seq p q, s =>
      match exec n p s with
      | .ok .norm s' => exec n q s'
      | r => r                                  -- `break` / `continue` / out of fuel: the rest is skipped
  | n, .ite c _ args p q, s =>
      if sem.cond c (evalArgs s.regs args) then exec n p s else exec n q s
  | n, .ifThen c _ args p, s =>
      if sem.cond c (evalArgs s.regs args) then exec n p s else .done s
  | 0, .while _ _ _ _, s => .timeout s
  | n + 1, .while c neg args body, s =>
      if sem.cond c (evalArgs s.regs args) then
        match exec (n + 1) body s with
        | .ok .brk s' => .done s'
        | .ok .ret s' => .ok .ret s'
        | .ok _ s' => exec n (.while c neg args body) s'
        | r => r
      else .done s
  | 0, .loop _, s => .timeout s
  | n + 1, .loop body, s =>
      match exec (n + 1) body s with
      | .ok .brk s' => .done s'
      | .ok .ret s' => .ok .ret s'
      | .ok _ s' => exec n (.loop body) s'
      | r => r

end sem

/-- number of emitted lines -/
def size {V : Type} : Stmt V → Nat
  | .alu _ _ _ => 1
  | .load _ _ _ => 1
  | .store _ _ => 1
  | .yield => 1
  | .sleep _ => 1
  | .skip => 0
  | .seq p q => size p + size q
  | .ite _ _ _ p q => size p + size q + 4
  | .ifThen _ _ _ p => size p + 3
  | .while _ _ _ body => size body + 4
  | .loop body => size body + 3
  | .brk => 1
  | .cont => 1
  | .getm _ _ => 1
  | .putm _ _ => 1
  | .call _ => 1
  | .ret => 1
  | .inl body => size body + 2

def nopI {V : Type} : Instr Reg V := ⟨.nop, none, []⟩

/-- the model code generator; `base` = line number of the first emitted line; `lit n` = the operand that denotes line `n`;
    `cl` / `bl` = the lines `continue` / `break` jump to (start and end label of the innermost enclosing loop); `rl` = the line
    `return` jumps to (end label of the procedure); `entry k` = the line of procedure `k`'s entry label -/
def comp {V : Type} (lit : Nat → V) (entry : Nat → Nat) : Stmt V → Nat → Nat → Nat → Nat → List (Instr Reg V)
  | .alu x op args, _, _, _, _ => [⟨.alu op, some x, args⟩]
  | .load x q args, _, _, _, _ => [⟨.load q, some x, args⟩]
  | .store q args, _, _, _, _ => [⟨.store q, none, args⟩]
  | .yield, _, _, _, _ => [⟨.yield, none, []⟩]
  | .sleep a, _, _, _, _ => [⟨.sleep, none, [a]⟩]
  | .skip, _, _, _, _ => []
  | .getm x a, _, _, _, _ => [⟨.getdb, some x, [a]⟩]
  | .putm a v, _, _, _, _ => [⟨.poke, none, [a, v]⟩]
  | .call k, _, _, _, _ => [⟨.jal, none, [.num (lit (entry k))]⟩]
  | .ret, _, _, _, rl => [⟨.jmp, none, [.num (lit rl)]⟩]
  | .brk, _, _, bl, _ => [⟨.jmp, none, [.num (lit bl)]⟩]
  | .cont, _, cl, _, _ => [⟨.jmp, none, [.num (lit cl)]⟩]
  | .seq p q, base, cl, bl, rl => comp lit entry p base cl bl rl ++ comp lit entry q (base + size p) cl bl rl
  | .ite _ neg args p q, base, cl, bl, rl =>
      [⟨.br neg, none, args ++ [.num (lit (base + size p + 2))]⟩] ++ comp lit entry p (base + 1) cl bl rl ++
      [⟨.jmp, none, [.num (lit (base + size p + size q + 3))]⟩, nopI] ++ comp lit entry q (base + size p + 3) cl bl rl ++ [nopI]
  | .ifThen _ neg args p, base, cl, bl, rl =>
      [⟨.br neg, none, args ++ [.num (lit (base + size p + 1))]⟩] ++ comp lit entry p (base + 1) cl bl rl ++ [nopI, nopI]
  | .while _ neg args body, base, _, _, rl =>
      [nopI, ⟨.br neg, none, args ++ [.num (lit (base + size body + 3))]⟩] ++ comp lit entry body (base + 2) base (base + size body + 3) rl ++
      [⟨.jmp, none, [.num (lit base)]⟩, nopI]
  | .loop body, base, _, _, rl =>
      [nopI] ++ comp lit entry body (base + 1) base (base + size body + 2) rl ++ [⟨.jmp, none, [.num (lit base)]⟩, nopI]
  | .inl body, base, cl, bl, _ =>
      [nopI] ++ comp lit entry body (base + 1) cl bl (base + 1 + size body) ++ [nopI]

/-- does the statement call a procedure (a procedure that does saves `ra`, see `compProc`) -/
def hasCall {V : Type} : Stmt V → Bool
  | .call _ => true
  | .seq p q => hasCall p || hasCall q
  | .ite _ _ _ p q => hasCall p || hasCall q
  | .ifThen _ _ _ p => hasCall p
  | .while _ _ _ body => hasCall body
  | .loop body => hasCall body
  | .inl body => hasCall body
  | _ => false

def pushRa {V : Type} : Instr Reg V := ⟨.push, none, [.reg Special.ra]⟩
def popRa {V : Type} : Instr Reg V := ⟨.pop, some Special.ra, []⟩
def retI {V : Type} : Instr Reg V := ⟨.jmp, none, [.reg Special.ra]⟩

/-- the block of procedure `k`: `f: ; body ; fend: ; j ra`, and for a procedure that calls others `push ra` right after the
    entry label and `pop ra` right after the end label (fixed-slot convention of `add_ra_instructions`) -/
def compProc {V : Type} (lit : Nat → V) (entry : Nat → Nat) (body : Stmt V) (k : Nat) : List (Instr Reg V) :=
  if hasCall body then
    [nopI, pushRa] ++ comp lit entry body (entry k + 2) 0 0 (entry k + 2 + size body) ++ [nopI, popRa, retI]
  else
    [nopI] ++ comp lit entry body (entry k + 1) 0 0 (entry k + 1 + size body) ++ [nopI, retI]

/-! ### program layout: main code, then one block per procedure -/

def blockSize {V : Type} (b : Stmt V) : Nat := size b + 3 + (if hasCall b then 2 else 0)

/-- line of procedure `k`'s entry label -/
def entryOf {V : Type} (mainSize : Nat) (procs : List (Stmt V)) (k : Nat) : Nat := mainSize + ((procs.take k).map blockSize).sum

def procOf {V : Type} (procs : List (Stmt V)) (k : Nat) : Stmt V := procs.getD k .skip

def blocks {V : Type} (lit : Nat → V) (entry : Nat → Nat) (procs : List (Stmt V)) : List (List (Instr Reg V)) :=
  procs.zipIdx.map (fun (b, k) => compProc lit entry b k)

/-- **the model of the whole emitted program**: the main script, then `f: ; body ; fend: ; j ra` for every procedure -/
def compProg {V : Type} (lit : Nat → V) (main : Stmt V) (procs : List (Stmt V)) : List (Instr Reg V) :=
  comp lit (entryOf (size main) procs) main 0 0 0 0 ++ (blocks lit (entryOf (size main) procs) procs).flatten

/-- a statement without calls (what a leaf procedure consists of) -/
def NoCall {V : Type} : Stmt V → Prop
  | .call _ => False
  | .seq p q => NoCall p ∧ NoCall q
  | .ite _ _ _ p q => NoCall p ∧ NoCall q
  | .ifThen _ _ _ p => NoCall p
  | .while _ _ _ body => NoCall body
  | .loop body => NoCall body
  | .inl body => NoCall body
  | _ => True

def opndOk {V : Type} : Opnd Reg V → Prop
  | .reg r => r ≠ (Special.ra : Reg) ∧ r ≠ (Special.sp : Reg)
  | .num _ => True

/-- a stack cell a program may use as memory: a literal address at or above `lo` (the cells below belong to the call stack) -/
def addrOk {V : Type} (sem : Sem V) (lo : Nat) : Opnd Reg V → Prop
  | .num v => ∃ n, sem.toAddr v = some n ∧ lo ≤ n ∧ n < stackSize
  | .reg _ => False

def regOk (x : Reg) : Prop := x ≠ (Special.ra : Reg) ∧ x ≠ (Special.sp : Reg)

/-- well-formedness of a core program: every branch uses a suffix that negates its condition (on as many values as it
    compares), `ra` and `sp` are neither read nor written by the program's own instructions, the own stack is used as memory only
    at literal addresses at or above `lo` (below is the call stack), and every called procedure satisfies `ok` -/
def Good {V : Type} (sem : Sem V) (lo : Nat) (ok : Nat → Prop) : Stmt V → Prop
  | .alu x _ args => regOk x ∧ ∀ o ∈ args, opndOk o
  | .load x _ args => regOk x ∧ ∀ o ∈ args, opndOk o
  | .store _ args => ∀ o ∈ args, opndOk o
  | .sleep a => opndOk a
  | .getm x a => regOk x ∧ addrOk sem lo a
  | .putm a v => addrOk sem lo a ∧ opndOk v
  | .call k => ok k
  | .seq p q => Good sem lo ok p ∧ Good sem lo ok q
  | .ite c neg args p q =>
      (∀ vals : List V, vals.length = args.length → sem.cond neg vals = !sem.cond c vals) ∧ (∀ o ∈ args, opndOk o) ∧ Good sem lo ok p ∧ Good sem lo ok q
  | .ifThen c neg args p =>
      (∀ vals : List V, vals.length = args.length → sem.cond neg vals = !sem.cond c vals) ∧ (∀ o ∈ args, opndOk o) ∧ Good sem lo ok p
  | .while c neg args body =>
      (∀ vals : List V, vals.length = args.length → sem.cond neg vals = !sem.cond c vals) ∧ (∀ o ∈ args, opndOk o) ∧ Good sem lo ok body
  | .loop body => Good sem lo ok body
  | .inl body => Good sem lo ok body
  | _ => True

def opndOkB {V : Type} : Opnd Reg V → Bool
  | .reg r => r != (Special.ra : Reg) && r != (Special.sp : Reg)
  | .num _ => true

def addrOkB {V : Type} (sem : Sem V) (lo : Nat) : Opnd Reg V → Bool
  | .num v => match sem.toAddr v with
    | some n => decide (lo ≤ n) && decide (n < stackSize)
    | none => false
  | .reg _ => false

def regOkB (x : Reg) : Bool := x != (Special.ra : Reg) && x != (Special.sp : Reg)

/-- executable form of `Good` against a table of (condition, branch suffix, number of compared operands) and the list of
    procedures that may be called -/
def goodB {V : Type} (sem : Sem V) (lo : Nat) (pairs : List (String × String × Nat)) (procs : List Nat) : Stmt V → Bool
  | .alu x _ args => regOkB x && args.all opndOkB
  | .load x _ args => regOkB x && args.all opndOkB
  | .store _ args => args.all opndOkB
  | .sleep a => opndOkB a
  | .getm x a => regOkB x && addrOkB sem lo a
  | .putm a v => addrOkB sem lo a && opndOkB v
  | .call k => procs.contains k
  | .seq p q => goodB sem lo pairs procs p && goodB sem lo pairs procs q
  | .ite c neg args p q => pairs.contains (c, neg, args.length) && args.all opndOkB && goodB sem lo pairs procs p && goodB sem lo pairs procs q
  | .ifThen c neg args p => pairs.contains (c, neg, args.length) && args.all opndOkB && goodB sem lo pairs procs p
  | .while c neg args body => pairs.contains (c, neg, args.length) && args.all opndOkB && goodB sem lo pairs procs body
  | .loop body => goodB sem lo pairs procs body
  | .inl body => goodB sem lo pairs procs body
  | _ => true

def noCallB {V : Type} : Stmt V → Bool
  | .call _ => false
  | .seq p q => noCallB p && noCallB q
  | .ite _ _ _ p q => noCallB p && noCallB q
  | .ifThen _ _ _ p => noCallB p
  | .while _ _ _ body => noCallB body
  | .loop body => noCallB body
  | .inl body => noCallB body
  | _ => true

end PV.Core

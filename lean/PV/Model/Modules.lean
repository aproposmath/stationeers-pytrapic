/-
Naming of scopes for programs split over library modules (C13): `utils.get_scope_name` yields "<module>" for module-level
names and "<module>.<function>" inside functions ("" / "<function>" for the main file); the symbol tables are keyed by
(scope, name); labels of functions are the scope-qualified name with "_" replaced by "."; `__name__` is the head of the
scope, or "__main__" for the main file.  No imports.
-/
namespace PV.Modules

/-- scope key of a name defined in module `m` (main file: the empty name), at module level or inside function `f` -/
def scopeKey (m : List Char) (f : Option (List Char)) : List Char :=
  match f with
  | none => m
  | some fn => if m.isEmpty then fn else m ++ '.' :: fn

/-- the value `__name__` folds to inside scope `key`.  Faithful for module-level keys and for library functions; for a
    function `f` of the main file (key "f") it gives "f", while the code gives "__main__": `__name__` is never a local,
    so `utils.get_scope_name` hands `handle_name` the module's scope name, not the function's. -/
def nameConst (key : List Char) : List Char :=
  let head := key.takeWhile (· ≠ '.')
  if head.isEmpty then "__main__".toList else head

/-- label of a function: scope-qualified name, "_" → "." -/
def mangle (qualified : List Char) : List Char := qualified.map (fun c => if c = '_' then '.' else c)

def dotFree (s : List Char) : Prop := ∀ c ∈ s, c ≠ '.'

end PV.Modules

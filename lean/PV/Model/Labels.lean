/-
Labels of an emitted program and their removal (C05).  A program is a list of lines; a line is a label
definition or an instruction given by its tokens (opcode first).  `specRemove` is the declarative meaning of
"the output with labels removed": drop the label lines and replace every operand that is a label by the
index of the instruction that follows the label.  No imports: linked into `pvdrv`.
-/
namespace PV.Labels

inductive Line where
  | label (name : String)
  | instr (toks : List String)
  deriving Repr, DecidableEq

def Line.isInstr : Line → Bool
  | .instr _ => true
  | .label _ => false

/-- number of instruction lines -/
def countInstrs : List Line → Nat
  | [] => 0
  | .instr _ :: rest => countInstrs rest + 1
  | .label _ :: rest => countInstrs rest

/-- index (among instructions) of the instruction that follows the FIRST definition of `l`; `base` = instructions seen so far.
    For a label defined twice the choice is arbitrary and differs from the code (`remove_labels` keeps the last definition);
    outputs are only compared where every label is defined once. -/
def labelIndexFrom (l : String) : List Line → Nat → Option Nat
  | [], _ => none
  | .label n :: rest, base => if n = l then some base else labelIndexFrom l rest base
  | .instr _ :: rest, base => labelIndexFrom l rest (base + 1)

def labelIndex (p : List Line) (l : String) : Option Nat := labelIndexFrom l p 0

/-- how often `l` is defined -/
def defCount (l : String) : List Line → Nat
  | [] => 0
  | .label n :: rest => (if n = l then 1 else 0) + defCount l rest
  | .instr _ :: rest => defCount l rest

def substTok (p : List Line) (tok : String) : String :=
  match labelIndex p tok with
  | some n => toString n
  | none => tok

/-- operands (all tokens after the opcode) that are labels become line numbers -/
def substInstr (p : List Line) : List String → List String
  | [] => []
  | op :: args => op :: args.map (substTok p)

/-- the program with labels removed -/
def specRemoveAux (p : List Line) : List Line → List (List String)
  | [] => []
  | .label _ :: rest => specRemoveAux p rest
  | .instr toks :: rest => substInstr p toks :: specRemoveAux p rest

def specRemove (p : List Line) : List (List String) := specRemoveAux p p

/-- labels referenced by the operands of jump-type instructions: last operand of `j`/`jal`/`b…`, and any operand that is a defined label -/
def referenced (p : List Line) : List String :=
  p.flatMap (fun ln => match ln with
    | .instr (_ :: args) => args.filter (fun a => (labelIndex p a).isSome)
    | _ => [])

end PV.Labels

import PV.Model.Flatten
/-
The PROVED part of the front end: expression flattening for function-free programs, written by structural recursion so that
theorems can be stated about it (`PV.Flatten` is a larger, unproved model written with `partial def`).

`Front.flatten` covers: numbers, global variables, binary / unary operators, device reads, intrinsics, own-stack reads,
conditional expressions (arms without own-stack reads);
assignments of such expressions, device writes, own-stack writes, `if` / `else` on a comparison, a variable, a device read or an
`and` / `or` (the last three also under `not`),
`while` on a comparison of plain operands, `while True`, `break`, `continue`, `yield`, `sleep`, `pass`.  On every program
inside this fragment it is meant to yield exactly what `PV.Flatten.flatten` yields (checked per program by the driver: `front` in
`core-compare`); `front_sound` (`PV/Proofs/FrontStmt.lean`) proves that the result has the effect trace of the source under `PV.Src`.
Executable, no Mathlib: linked into `pvdrv`.
-/
namespace PV.Front
open PV.IC10
open PV.Flatten (Cfg CStmt Reg seqAll cmpNames branchPair)

structure FS where
  vars : List (String × Nat) := []
  next : Nat := 100

def FS.lookup (fs : FS) (x : String) : Option Nat := (fs.vars.find? (·.1 == x)).map (·.2)
def FS.fresh (fs : FS) : FS × Nat := ({ fs with next := fs.next + 1 }, fs.next)
def FS.regOf (fs : FS) (x : String) : FS × Nat :=
  match fs.lookup x with
  | some r => (fs, r)
  | none => ({ vars := fs.vars ++ [(x, fs.next)], next := fs.next + 1 }, fs.next)
/-- the register that receives the outermost operation: the assignment's target, or a fresh temporary -/
def FS.pick (fs : FS) : Option Nat → FS × Nat
  | some t => (fs, t)
  | none => fs.fresh

variable {V : Type}

/-- a literal of the source text (folded by the front end) -/
def isLit : PV.Src.Expr V → Bool
  | .num _ => true
  | .un op a => op == "neg" && isLit a
  | _ => false

def allLit : List (PV.Src.Expr V) → Bool
  | [] => true
  | e :: es => isLit e && allLit es

mutual
/-- no own-stack read inside (such an expression can always be evaluated: the arms of a conditional expression are both run) -/
def noSget : PV.Src.Expr V → Bool
  | .sget _ => false
  | .bin _ a b => noSget a && noSget b
  | .un _ a => noSget a
  | .read _ args => noSgetL args
  | .prim _ args => noSgetL args
  | .ifexp c a b => noSget c && noSget a && noSget b
  | .num _ => true
  | .gvar _ => true
  | .lvar _ => true
  | .index _ _ => false
  | .call _ _ => false
def noSgetL : List (PV.Src.Expr V) → Bool
  | [] => true
  | e :: es => noSget e && noSgetL es
end

mutual
/-- `(state, code, operand)`; `target`: register that receives the outermost operation -/
def flatE (cf : Cfg V) (fs : FS) (target : Option Nat) : PV.Src.Expr V → Option (FS × List (CStmt V) × Opnd Reg V)
  | .num v => some (fs, [], .num v)
  | .gvar x =>
    match fs.lookup x with
    | some r => some (fs, [], .reg r)
    | none => none
  | .bin op a b =>
    match flatE cf fs none a with
    | none => none
    | some (fs1, ca, oa) =>
      match flatE cf fs1 none b with
      | none => none
      | some (fs2, cb, ob) =>
        if isLit a && isLit b then none else
        some ((fs2.pick target).1, ca ++ cb ++ [PV.Core.Stmt.alu (fs2.pick target).2 op [oa, ob]], .reg (fs2.pick target).2)
  | .un op a =>
    match flatE cf fs none a with
    | none => none
    | some (fs1, ca, oa) =>
      if isLit a then
        match oa with
        | .num v => if op == "neg" then some (fs1, ca, .num (cf.negV v)) else none
        | .reg _ => none
      else
        let t := (fs1.pick target).2
        some ((fs1.pick target).1,
          ca ++ [if op == "neg" then PV.Core.Stmt.alu t "sub" [(.num cf.zero), oa]
                 else if op == "not" then PV.Core.Stmt.alu t "seqz" [oa] else PV.Core.Stmt.alu t op [oa]], .reg t)
  | .read q args =>
    match flatArgs cf fs args with
    | none => none
    | some (fs1, code, os) => some ((fs1.pick target).1, code ++ [PV.Core.Stmt.load (fs1.pick target).2 q os], .reg (fs1.pick target).2)
  | .prim op args =>
    match flatArgs cf fs args with
    | none => none
    | some (fs1, code, os) =>
      if allLit args then none else
      some ((fs1.pick target).1, code ++ [PV.Core.Stmt.alu (fs1.pick target).2 op os], .reg (fs1.pick target).2)
  | .sget a =>
    match flatE cf fs none a with
    | none => none
    | some (fs1, ca, oa) => some ((fs1.pick target).1, ca ++ [PV.Core.Stmt.getm (fs1.pick target).2 oa], .reg (fs1.pick target).2)
  | .ifexp c a b =>
    -- `u if c else v`: test, then both arms (the front end emits the code of the `else` arm twice, F-C01-h), then `select`
    match flatE cf fs none c with
    | none => none
    | some (fs1, cc, oc) =>
      match flatE cf fs1 none a with
      | none => none
      | some (fs2, ca, oa) =>
        match flatE cf fs2 none b with
        | none => none
        | some (fs3, cb, ob) =>
          if isLit c || !(noSget a && noSget b) then none else
          some ((fs3.pick target).1, cc ++ ca ++ cb ++ cb ++ [PV.Core.Stmt.alu (fs3.pick target).2 "select" [oc, oa, ob]], .reg (fs3.pick target).2)
  | .lvar _ => none
  | .index _ _ => none
  | .call _ _ => none

def flatArgs (cf : Cfg V) (fs : FS) : List (PV.Src.Expr V) → Option (FS × List (CStmt V) × List (Opnd Reg V))
  | [] => some (fs, [], [])
  | e :: es =>
    match flatE cf fs none e with
    | none => none
    | some (fs1, c1, o1) =>
      match flatArgs cf fs1 es with
      | none => none
      | some (fs2, c2, os) => some (fs2, c1 ++ c2, o1 :: os)
end

/-- a test: a comparison, or (for `if` only, `truth`) a variable, a device read or an `and` / `or`, possibly under `not`, tested
    for being non-zero:
    (operand code, condition, branch suffix, operands) -/
def flatTest (cf : Cfg V) (truth : Bool) (fs : FS) : PV.Src.Expr V → Option (FS × List (CStmt V) × String × String × List (Opnd Reg V))
  | .bin op a b =>
    if cmpNames.contains op then
      match flatE cf fs none a with
      | none => none
      | some (fs1, ca, oa) =>
        match flatE cf fs1 none b with
        | none => none
        | some (fs2, cb, ob) =>
          match branchPair op with
          | none => none
          | some (c, neg) => if isLit a && isLit b then none else some (fs2, ca ++ cb, c, neg, [oa, ob])
    else if truth && (op == "and" || op == "or") then
      -- `if p and q:` — the value is computed, then tested for being non-zero (`beqz t ELSE`)
      match flatE cf fs none (.bin op a b) with
      | none => none
      | some (fs1, code, o) => some (fs1, code, "nez", "eqz", [o])
    else none
  | .read q args =>
    if truth then
      match flatE cf fs none (.read q args) with
      | none => none
      | some (fs1, code, o) => some (fs1, code, "nez", "eqz", [o])
    else none
  | .un op e =>
    -- `if not x:` / `if not <device read>:` / `if not (p and q):` — `bnez … ELSE`
    if truth && op == "not" then
      match e with
      | .gvar x =>
        match fs.lookup x with
        | some r => some (fs, [], "eqz", "nez", [Opnd.reg r])
        | none => none
      | .read q args =>
        match flatE cf fs none (.read q args) with
        | none => none
        | some (fs1, code, o) => some (fs1, code, "eqz", "nez", [o])
      | .bin op2 a b =>
        if op2 == "and" || op2 == "or" then
          match flatE cf fs none (.bin op2 a b) with
          | none => none
          | some (fs1, code, o) => some (fs1, code, "eqz", "nez", [o])
        else none
      | _ => none
    else none
  | .gvar x =>
    if truth then
      match fs.lookup x with
      | some r => some (fs, [], "nez", "eqz", [Opnd.reg r])
      | none => none
    else none
  | _ => none

mutual
def flatS (cf : Cfg V) (once : List String) (fs : FS) : PV.Src.Stmt V → Option (FS × List (CStmt V))
  | .gassign x e =>
    match e with
    | .gvar _ => none                            -- `x = y` is aliased by the front end: outside
    | _ =>
      match flatE cf (fs.regOf x).1 (some (fs.regOf x).2) e with
      | none => none
      | some (fs1, code, o) =>
        match o with
        | .num v => if once.contains x then none else some (fs1, code ++ [PV.Core.Stmt.alu (fs.regOf x).2 "move" [.num v]])
        | .reg r => if r = (fs.regOf x).2 then some (fs1, code) else none
  | .write q args =>
    match flatArgs cf fs args with
    | none => none
    | some (fs1, code, os) => some (fs1, code ++ [PV.Core.Stmt.store q os])
  | .sput a v =>
    match flatE cf fs none a with
    | none => none
    | some (fs1, ca, oa) =>
      match flatE cf fs1 none v with
      | none => none
      | some (fs2, cv, ov) => some (fs2, ca ++ cv ++ [PV.Core.Stmt.putm oa ov])
  | .ite c t e =>
    match flatTest cf true fs c with
    | none => none
    | some (fs1, pre, cnd, neg, os) =>
      match flatB cf once fs1 t with
      | none => none
      | some (fs2, ct) =>
        if e.isEmpty then some (fs2, pre ++ [PV.Core.Stmt.ifThen cnd neg os (seqAll ct)])
        else
          match flatB cf once fs2 e with
          | none => none
          | some (fs3, ce) => some (fs3, pre ++ [PV.Core.Stmt.ite cnd neg os (seqAll ct) (seqAll ce)])
  | .while c body =>
    match c with
    | .num v =>
      if cf.isOne v then
        match flatB cf once fs body with
        | none => none
        | some (fs1, cb) => some (fs1, [PV.Core.Stmt.loop (seqAll cb)])
      else none
    | _ =>
      match flatTest cf false fs c with
      | none => none
      | some (fs1, pre, cnd, neg, os) =>
        if !pre.isEmpty then none else
          match flatB cf once fs1 body with
          | none => none
          | some (fs2, cb) => some (fs2, [PV.Core.Stmt.while cnd neg os (seqAll cb)])
  | .brk => some (fs, [PV.Core.Stmt.brk])
  | .cont => some (fs, [PV.Core.Stmt.cont])
  | .yield => some (fs, [PV.Core.Stmt.yield])
  | .sleep e =>
    match flatE cf fs none e with
    | none => none
    | some (fs1, code, o) => some (fs1, code ++ [PV.Core.Stmt.sleep o])
  | .pass => some (fs, [])
  | .lassign _ _ => none
  | .forRange _ _ _ _ _ _ => none
  | .forList _ _ _ _ => none
  | .ret _ => none
  | .expr _ => none
  | .hcf => none
  | .push _ => none

def flatB (cf : Cfg V) (once : List String) (fs : FS) : List (PV.Src.Stmt V) → Option (FS × List (CStmt V))
  | [] => some (fs, [])
  | s :: rest =>
    match flatS cf once fs s with
    | none => none
    | some (fs1, c1) =>
      match flatB cf once fs1 rest with
      | none => none
      | some (fs2, c2) => some (fs2, c1 ++ c2)
end

-- names assigned by a block (with multiplicity)
mutual
def assignedS : PV.Src.Stmt V → List String
  | .gassign x _ => [x]
  | .lassign x _ => [x]
  | .ite _ t e => assignedB t ++ assignedB e
  | .while _ b => assignedB b
  | .forRange _ x _ _ _ b => x :: assignedB b
  | .forList _ x _ b => x :: assignedB b
  | _ => []
def assignedB : List (PV.Src.Stmt V) → List String
  | [] => []
  | s :: r => assignedS s ++ assignedB r
end

/-- a function-free program inside the fragment: its core form -/
def flatten (cf : Cfg V) (p : PV.Src.Program V) : Option (CStmt V) :=
  if !p.funcs.isEmpty then none else
  let asg := assignedB p.main
  let once := asg.filter (fun x => asg.count x == 1)
  match flatB cf once {} p.main with
  | none => none
  | some (_, code) => some (seqAll code)

end PV.Front

/-
Model of the outer shell of `compile_code` (C10):
  * `verdict` — the try/except skeleton of `Compiler.compile`: whatever the passes do (return, CompilerError,
    AstroidSyntaxError, any other Exception) is mapped to a dictionary with `code` or with `error`;
  * `Child` — the life cycle of the helper interpreter of a constexpr evaluation (`utils.eval_constexpr`).
No imports.
-/
namespace PV.Verdict

/-- how the passes can end -/
inductive Outcome (R : Type) where
  | returns (r : R)
  | compilerError (msg : String) (line : Option Nat)
  | syntaxError (msg : String) (line : Option Nat)
  | otherException (msg : String) (trace : String)

inductive Verdict (R : Type) where
  | code (r : R)
  | error (description : String) (line : Option Nat) (stackTrace : Option String)

-- Where the model differs from the code: for a `CompilerError` the description is `str(e)` (compiler.py), which is
-- "Compiler error at line L:C: msg …" when the error carries a node and the bare message when it does not
-- (`register_assignment`: "Running out of registers, …"); the fixed prefix below stands for both.
def verdict {R : Type} : Outcome R → Verdict R
  | .returns r => .code r
  | .compilerError msg line => .error ("Compiler error: " ++ msg) line none
  | .syntaxError msg line => .error ("Syntax error: " ++ msg) line none
  | .otherException msg tr => .error ("Internal compiler error: " ++ msg) none (some tr)

/-! ### the helper process of a constexpr evaluation -/

inductive Child where
  | notStarted
  | running
  | exited (rc : Nat)     -- terminated by itself, reaped by communicate()
  | killedAndReaped       -- timeout: kill() + communicate()
  deriving Repr, DecidableEq

/-- what the environment does to a started child within the time limit -/
inductive Fate where
  | finishes (rc : Nat)
  | timesOut
  deriving Repr

inductive EvalResult where
  | value
  | errorTimeout
  | errorFailed
  | errorBadJson
  deriving Repr, DecidableEq

/-- `eval_constexpr` after Popen: communicate(timeout) → on timeout kill and reap, then report -/
def evalChild (fate : Fate) (jsonOk : Bool) : Child × EvalResult :=
  match fate with
  | .timesOut => (.killedAndReaped, .errorTimeout)
  | .finishes rc => if rc != 0 then (.exited rc, .errorFailed) else if jsonOk then (.exited 0, .value) else (.exited 0, .errorBadJson)

def Child.gone : Child → Bool
  | .running => false
  | _ => true

end PV.Verdict

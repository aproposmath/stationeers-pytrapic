import PV.Model.Verdict
import PV.Model.Pragma
/-!
# C10 — compile_code always returns a verdict, promptly, and cleans up   (partial)

What Lean can say is the shape of the answer: the try/except shell maps every way the passes can end to a verdict
(`PV.Verdict.verdict`), and every path of a constexpr evaluation leaves the helper interpreter reaped (`evalChild`).
That CPython executes the passes in bounded time cannot be a Lean theorem: promptness, and the absence of helper processes
after the call, are observed by the harness on a malformed-input stream (every prefix of shipped programs, byte-level
mutations, hostile constexpr bodies).
-/
namespace PV.Props.C10
open PV.Verdict

theorem append_ne_empty {p : String} (hp : p ≠ "") (msg : String) : p ++ msg ≠ "" :=
  fun h => hp (String.append_eq_empty_iff.1 h).1

/-- **always a verdict**: every way the passes can end is mapped to `code` or to an `error` whose description is not
    empty.  (That it is one of the two and never both is the shape of the type `Verdict`; the description is not empty
    because of the fixed text the model puts before the message.) -/
theorem verdict_total {R : Type} (o : Outcome R) :
    (∃ r, verdict o = .code r) ∨ (∃ d l s, verdict o = .error d l s ∧ d ≠ "") := by
  cases o with
  | returns r => exact .inl ⟨r, rfl⟩
  | compilerError msg line => exact .inr ⟨_, line, none, rfl, append_ne_empty (by decide) msg⟩
  | syntaxError msg line => exact .inr ⟨_, line, none, rfl, append_ne_empty (by decide) msg⟩
  | otherException msg tr => exact .inr ⟨_, none, some tr, rfl, append_ne_empty (by decide) msg⟩

/-- only a normal return of the passes yields `code` -/
theorem code_only_on_return {R : Type} (o : Outcome R) (r : R) (h : verdict o = .code r) : o = .returns r := by
  cases o with
  | returns r' => cases h; rfl
  | _ => cases h

/-- the option prelude is modelled by a Lean function (`PV.Pragma.scan`, C15), which is defined for every text and options;
    the statement records that and nothing more — it holds of any function -/
theorem prelude_total (src : List Char) (o : PV.Pragma.Opts) : ∃ o', PV.Pragma.scan src o = o' := ⟨_, rfl⟩

/-- **no helper process is left**: whatever the child does -/
theorem no_child_left (fate : Fate) (jsonOk : Bool) : (evalChild fate jsonOk).1.gone = true := by
  cases fate with
  | timesOut => rfl
  | finishes rc =>
    rw [evalChild]
    split
    · rfl
    · cases jsonOk <;> rfl

/-- a child that never finishes is reported as a timeout error (not a value, not a hang of the caller) -/
theorem runaway_is_error (jsonOk : Bool) : (evalChild .timesOut jsonOk).2 = .errorTimeout := rfl

end PV.Props.C10

import PV.Model.Stats
-- nothing below uses it: the C17 check audits `PV.Props.C04.scope_registers_ok` (the register count) through this module
import PV.Props.C04
/-!
# C17 — reported size statistics describe the emitted program

`num_lines` / `num_bytes` as computed by the transpiler from the final string, related to the list of
lines the program consists of.  The register count (`num_registers`) is tied to the allocator's
mapping in `PV.Props.C04`/the correspondence run (`harness/c17.py`).
-/
namespace PV.Props.C17
open PV.PyStr PV.Stats

theorem splitlinesAux_append_of_noBreaks (l rest cur : List Char) (h : NoBreaks l) :
    splitlinesAux (l ++ rest) cur = splitlinesAux rest (l.reverse ++ cur) := by
  induction l generalizing cur with
  | nil => rfl
  | cons c l ih =>
    have hc : isBreak c = false := h c (List.mem_cons_self ..)
    have hcr : c ≠ '\r' := fun e => absurd (e ▸ hc) (by decide)
    rw [List.cons_append, splitlinesAux, if_neg hcr, hc, if_neg Bool.false_ne_true,
      ih _ fun x hx => h x (List.mem_cons_of_mem _ hx), List.reverse_cons, List.append_assoc]
    rfl

/-- `"\n".join(ls).splitlines() == ls` for break-free lines whose last line is not empty -/
theorem splitlines_join (ls : List (List Char)) (hne : ls ≠ []) (hb : ∀ l ∈ ls, NoBreaks l)
    (hlast : ls.getLast hne ≠ []) : splitlines (join ['\n'] ls) = ls := by
  unfold splitlines
  fun_induction join ['\n'] ls with
  | case1 => exact absurd rfl hne
  | case2 l =>
    -- the last line is emitted at the end of the text because it is not empty
    have := splitlinesAux_append_of_noBreaks l [] [] (hb l (List.mem_cons_self ..))
    rw [List.append_nil, List.append_nil] at this
    rw [this, splitlinesAux, if_neg (by simpa using hlast), List.reverse_reverse]
  | case3 l l2 rest ih =>
    rw [List.append_assoc, splitlinesAux_append_of_noBreaks l _ [] (hb l (List.mem_cons_self ..)), List.singleton_append, splitlinesAux,
      if_neg (by decide), if_pos (by decide), List.append_nil, List.reverse_reverse,
      ih (by simp) (fun x hx => hb x (List.mem_cons_of_mem _ hx)) (by simpa using hlast)]

theorem join_length (sep : List Char) (ls : List (List Char)) :
    (join sep ls).length = (ls.map List.length).sum + sep.length * (ls.length - 1) := by
  fun_induction join sep ls with
  | case1 => rfl
  | case2 x => simp
  | case3 x y rest ih =>
    rw [List.length_append, List.length_append, ih]
    simp only [List.map_cons, List.sum_cons, List.length_cons, Nat.add_sub_cancel, Nat.mul_succ]
    omega

/-- **num_lines** is the number of lines of `code`. -/
theorem num_lines_ok (ls : List (List Char)) (hne : ls ≠ []) (hb : ∀ l ∈ ls, NoBreaks l)
    (hlast : ls.getLast hne ≠ []) : numLines (join ['\n'] ls) = ls.length := by
  unfold numLines; rw [splitlines_join ls hne hb hlast]

/-- **num_bytes** is the size of `code` with two-byte line ends. -/
theorem num_bytes_crlf (ls : List (List Char)) (hne : ls ≠ []) (hb : ∀ l ∈ ls, NoBreaks l)
    (hlast : ls.getLast hne ≠ []) :
    numBytes (join ['\n'] ls) = (join ['\r', '\n'] ls).length := by
  unfold numBytes
  rw [num_lines_ok ls hne hb hlast, join_length, join_length]
  simp only [List.length_cons, List.length_nil]
  omega

/-- the empty program has size 0 (after repair F-C17-a; before it the code reported -1). -/
theorem empty_program : numLines [] = 0 ∧ numBytes [] = 0 := by
  simp [numLines, numBytes, splitlines, splitlinesAux]

example : NoBreaks "s db Setting 1".toList := by
  intro c hc; revert c; decide +kernel
example : numLines "move r0 1\ns db Setting r0".toList = 2 ∧ numBytes "move r0 1\ns db Setting r0".toList = 26 := by
  decide +kernel

end PV.Props.C17

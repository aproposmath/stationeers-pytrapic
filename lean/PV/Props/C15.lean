import PV.Proofs.Pragma
/-!
# C15 — in-source `# pytrapic:` directives set exactly the named options

Model: `PV.Pragma.scan` (the directive loop of `compiler.compile_code`).  `directives src` is the
ordered list of `(option name, value)` pairs the loop applies; `scan src o = applyAll (directives src) o`
holds by definition, so the laws below are laws of the scanner.
-/
namespace PV.Props.C15
open PV.Pragma PV.PyStr

/-- the scanner acts on each option separately: its value runs through the directives that name it -/
theorem scan_eq_map (src : List Char) (o : Opts) :
    scan src o = o.map (fun p => (p.1, final (directives src) p.1 p.2)) :=
  applyAll_eq_map _ o

theorem lookup_scan (src : List Char) (o : Opts) (f : Name) :
    lookup (scan src o) f = (lookup o f).map (final (directives src) f) := by
  rw [scan_eq_map]
  exact lookup_map o _ f

/-- **frame**: an option that no directive names keeps the caller's value. -/
theorem scan_frame (src : List Char) (o : Opts) (f : Name)
    (h : ∀ d ∈ directives src, d.1 ≠ f) : lookup (scan src o) f = lookup o f := by
  rw [lookup_scan]
  cases lookup o f with
  | none => rfl
  | some b => exact congrArg some (final_none _ f b h)

/-- **last wins**: when several directives name the same (known) option, the last one decides. -/
theorem scan_last_wins (src : List Char) (o : Opts) (f : Name) (v b : Bool)
    (ds es : List (Name × Bool)) (hsplit : directives src = ds ++ (f, v) :: es)
    (hes : ∀ d ∈ es, d.1 ≠ f) (hknown : lookup o f = some b) :
    lookup (scan src o) f = some v := by
  rw [lookup_scan, hknown, hsplit]
  exact congrArg some (final_last ds es f v b hes)

/-- **unknown names are ignored**: a directive whose name is not an option changes nothing … -/
theorem setOpt_unknown (o : Opts) (n : Name) (v : Bool) (h : lookup o n = none) : setOpt o n v = o := by
  simp only [lookup, Option.map_eq_none_iff, List.find?_eq_none, decide_eq_true_eq] at h
  unfold setOpt
  exact (List.map_congr_left fun p hp => if_neg (h p hp)).trans (List.map_id o)

/-- … and no directive can ever add, drop or rename an option. -/
theorem scan_known_only (src : List Char) (o : Opts) : (scan src o).map (·.1) = o.map (·.1) := by
  rw [scan_eq_map]
  simp [List.map_map, Function.comp_def]

/-- **spelling**: for every option of `CompileOptions` (regenerated table) the tag `f` sets it, the
    tags `no_f` and `no-f` clear it, and `-` may be written for `_` anywhere in the tag. -/
theorem tag_spellings :
    ∀ p ∈ defaults,
      directiveOfTag p.1 = (p.1, true) ∧
      directiveOfTag (noPrefix ++ p.1) = (p.1, false) ∧
      directiveOfTag ("no-".toList ++ p.1) = (p.1, false) ∧
      directiveOfTag (replaceChar '_' '-' p.1) = (p.1, true) ∧
      directiveOfTag ("no-".toList ++ replaceChar '_' '-' p.1) = (p.1, false) ∧
      directiveOfTag (' ' :: p.1 ++ [' ']) = (p.1, true) := by
  decide +kernel

private theorem strip_map (f : Char → Char) (hf : ∀ c, isSpace (f c) = isSpace c) (l : List Char) :
    strip (l.map f) = (strip l).map f := by
  have hd : ∀ l : List Char, (l.map f).dropWhile isSpace = (l.dropWhile isSpace).map f := fun l => by
    rw [List.dropWhile_map, show isSpace ∘ f = isSpace from funext hf]
  unfold strip rstrip lstrip
  rw [hd, ← List.map_reverse, hd, List.map_reverse]

private theorem dashToUnderscore_space (c : Char) :
    isSpace (if c = '-' then '_' else c) = isSpace c := by
  by_cases h : c = '-'
  · subst h; decide
  · simp [h]

/-- **`-` and `_` are alike**: two tags that differ only in `-` versus `_` are the same directive. -/
theorem dash_underscore_alike (t₁ t₂ : List Char)
    (h : replaceChar '-' '_' t₁ = replaceChar '-' '_' t₂) : directiveOfTag t₁ = directiveOfTag t₂ := by
  unfold directiveOfTag
  have e : ∀ t, replaceChar '-' '_' (strip t) = strip (replaceChar '-' '_' t) := by
    intro t; unfold replaceChar; rw [strip_map _ dashToUnderscore_space]
  simp only [e, h]

/-- **code lines are inert**: a line whose first non-blank character is not `#` carries no
    directive, wherever `pytrapic:` occurs in it (after code, inside a string, …). -/
theorem scan_code_line_inert (line : List Char) (h : (lstrip line).head? ≠ some '#') :
    lineDirectives line = [] := by
  have hs : startsWith (strip line) ['#'] = false :=
    Bool.eq_false_iff.mpr fun hs => h (strip_head line ▸ (startsWith_singleton_iff _ _).mp hs)
  unfold lineDirectives
  by_cases hc : contains line marker
  · simp [hc, hs]
  · simp [hc]

/-- **idempotence**: scanning again changes nothing. -/
theorem scan_idempotent (src : List Char) (o : Opts) : scan src (scan src o) = scan src o := by
  rw [scan_eq_map, scan_eq_map, List.map_map]
  apply List.map_congr_left
  intro p _
  simp [final_idem]

/-- **directive = API**: for any compiler `core`, compiling `src` under the caller's options equals
    compiling it under the options the directives produce. -/
theorem scan_eq_api {R : Type} (core : List Char → Opts → R) (src : List Char) (o : Opts) :
    (fun s b => core s (scan s b)) src (scan src o) = (fun s b => core s (scan s b)) src o := by
  simp only [scan_idempotent]

/-! non-vacuity: a concrete text with two directive lines, a directive after code and one in a string -/
example :
    directives ("x = 1  # pytrapic: compact\n  # pytrapic: no-inline-functions, compact ,bogus\ns = \"# pytrapic: remove_labels\"\n#pytrapic:no_compact".toList)
      = [("inline_functions".toList, false), ("compact".toList, true), ("bogus".toList, true),
         ("compact".toList, false)] := by
  -- the kernel evaluates `String.toList` of a literal by UTF-8 decoding, quadratically in its length;
  -- `String.toList_ofList` puts the characters in its place (a literal is `String.ofList` of them by `rfl`)
  rw [String.toList_ofList, String.toList_ofList, String.toList_ofList, String.toList_ofList]
  decide +kernel

example : lookup (scan "# pytrapic: compact\n# pytrapic: no-compact".toList defaults) "compact".toList
    = some false := by
  rw [String.toList_ofList, String.toList_ofList]
  decide +kernel

end PV.Props.C15

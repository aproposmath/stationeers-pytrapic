import PV.Model.Tokens
import PV.Proofs.Digits
/-!
# C08 — compact output means the same as verbose output

`spell hs o`, for `o` one of `computeHash mode s`, `computeString mode s`, `formatEnum mode ty m v`, is what the
transpiler prints for a symbolic operand in output mode `mode`;
`denote` is what the IC10 loader reads.  For every string, every integer and every enum member the compact
spelling denotes what the verbose spelling denotes, and a number replaces a symbolic token only if it is
exactly its value.
-/
namespace PV.Props.C08
open PV.Digits PV.Tokens

/-- an integer operand, however `format_int` spells it, reads back as itself -/
theorem int_denotes (T : EnumTable) (pos : Option String) (hs : List Int) (n : Int) :
    denote T pos (spell hs (.int n)) = some n := by
  simp only [spell, denote, formatInt_roundtrip]

theorem parseNum_none_of_head (c : Char) (rest : List Char) (h1 : c ≠ '$') (h2 : c ≠ '-')
    (h3 : ∀ d ∈ charDigit c, ¬ d < 10) : parseNum (c :: rest) = none := by
  -- the reader fails on the first character and stays failed
  have hc : readStep 10 (some 0) c = none := by
    unfold readStep
    cases hd : charDigit c with
    | none => rfl
    | some d => exact if_neg (h3 d hd)
  rw [parseNum_cons c rest h2 h1, strToNat, List.isEmpty_cons, if_neg Bool.false_ne_true, List.foldl_cons, hc, fold_none]
  rfl

theorem quoted_wrap (pre s : List Char) : quoted pre (pre ++ ['(', '"'] ++ s ++ ['"', ')']) = some s := by
  unfold quoted
  generalize pre ++ ['(', '"'] = p
  rw [List.append_assoc]
  have hp : p.isPrefixOf (p ++ (s ++ ['"', ')'])) = true := List.isPrefixOf_iff_prefix.mpr (List.prefix_append ..)
  have hs : ['"', ')'].isSuffixOf (p ++ (s ++ ['"', ')'])) = true :=
    List.isSuffixOf_iff_suffix.mpr ((List.suffix_append ..).trans (List.suffix_append ..))
  have hl : p.length + 2 ≤ (p ++ (s ++ ['"', ')'])).length := by
    rw [List.length_append, List.length_append]; exact Nat.add_le_add_left (Nat.le_add_left ..) _
  rw [if_pos ⟨hp, hs, hl⟩, List.drop_left, List.take_left' (by simp)]

/- Two traps with string literals.  `simp [hashText]` would have Lean generate `hashText.eq_1`, which takes
   seconds per character of the literal in the body; `unfold` does not.  And `String.toList` of a literal
   reduces by UTF-8 decoding, which is dear; `String.toList_ofList` replaces it by the characters. -/
theorem hashText_eq (s : List Char) : hashText s = "HASH".toList ++ ['(', '"'] ++ s ++ ['"', ')'] := by
  unfold hashText
  rw [String.toList_ofList, String.toList_ofList, String.toList_ofList]
  rfl
theorem strText_eq (s : List Char) : strText s = "STR".toList ++ ['(', '"'] ++ s ++ ['"', ')'] := by
  unfold strText
  rw [String.toList_ofList, String.toList_ofList, String.toList_ofList]
  rfl

theorem hash_text_denotes (T : EnumTable) (pos : Option String) (s : List Char) :
    denote T pos (hashText s) = some (hashOf s) := by
  have hnum : parseNum (hashText s) = none := by
    rw [hashText_eq, String.toList_ofList]
    exact parseNum_none_of_head 'H' _ (by decide) (by decide) (by decide)
  unfold denote
  rw [hnum]
  simp only
  rw [hashText_eq, quoted_wrap]

theorem str_text_denotes (T : EnumTable) (pos : Option String) (s : List Char) :
    denote T pos (strText s) = some (Int.ofNat (strPack s)) := by
  have hnum : parseNum (strText s) = none := by
    rw [strText_eq, String.toList_ofList]
    exact parseNum_none_of_head 'S' _ (by decide) (by decide) (by decide)
  have hq : quoted "HASH".toList (strText s) = none := by
    rw [strText_eq, String.toList_ofList, String.toList_ofList]
    rfl
  unfold denote
  rw [hnum]
  simp only
  rw [hq]
  simp only
  rw [strText_eq, quoted_wrap]

/-- the value `compute_string` computes is the byte packing when every character is a byte (Latin-1);
    beyond that the shift-or overlaps neighbouring bytes (known finding F-C08-a) -/
theorem computeString_eq_pack (s : List Char) (h : ∀ c ∈ s, c.toNat < 256) : computeStringVal s = strPack s :=
  -- the two folds agree step by step: below 2^8 the shifted-in byte does not overlap, so `|||` is `+`
  List.foldl_rel (r := Eq) rfl fun c hc a _ e => by
    rw [← e, ← Nat.shiftLeft_add_eq_or_of_lt (h c hc) a, Nat.shiftLeft_eq]

theorem applyOutputMode_denotes (T : EnumTable) (pos : Option String) (hs : List Int) (num : Int) (text : List Char)
    (m : Mode) (h : denote T pos text = some num) : denote T pos (spell hs (applyOutputMode num text m)) = some num := by
  cases m with
  | verbose => exact h
  | numeric => exact int_denotes T pos hs num
  | compact =>
    show denote T pos (spell hs (if (intToDec num).length < text.length then .int num else .text text)) = some num
    split
    · exact int_denotes T pos hs num
    · exact h

/-- **HASH**: compact and verbose spellings denote the same number, the signed CRC-32 — all strings -/
theorem hash_compact_denotes_verbose (T : EnumTable) (pos : Option String) (hs : List Int) (s : List Char) (m : Mode) :
    denote T pos (spell hs (computeHash m s)) = some (hashOf s) :=
  applyOutputMode_denotes T pos hs _ _ m (hash_text_denotes T pos s)

/-- **STR**: compact and verbose spellings denote the same number, for strings of byte-sized characters -/
theorem str_compact_denotes_verbose (T : EnumTable) (pos : Option String) (hs : List Int) (s : List Char) (m : Mode)
    (hb : ∀ c ∈ s, c.toNat < 256) :
    denote T pos (spell hs (computeString m s)) = some (Int.ofNat (strPack s)) := by
  unfold computeString
  rw [computeString_eq_pack s hb]
  exact applyOutputMode_denotes T pos hs _ _ m (str_text_denotes T pos s)

/-- outside verbose mode `format_enum` prints the number, which reads back as itself: only the name is in question -/
theorem formatEnum_denotes (T : EnumTable) (pos : Option String) (hs : List Int) (ty m : List Char) (v : Int)
    (h : denote T pos (spell hs (formatEnum .verbose ty m v)) = some v) (mode : Mode) :
    denote T pos (spell hs (formatEnum mode ty m v)) = some v := by
  cases mode with
  | verbose => exact h
  | compact => exact int_denotes T pos hs v
  | numeric => exact int_denotes T pos hs v

/-- a member name as the tables have them -/
def PlainName (m : List Char) : Prop :=
  parseNum m = none ∧ quoted "HASH".toList m = none ∧ quoted "STR".toList m = none ∧ splitDot m = none

instance (m : List Char) : Decidable (PlainName m) := by unfold PlainName; exact inferInstance

/-- **enum members printed bare** (LogicType, LogicBatchMethod, LogicSlotType): name in an operand position of
    that enum class and number denote the same member -/
theorem enum_bare_compact_denotes_verbose (T : EnumTable) (hs : List Int) (ty m : List Char) (v : Int) (mode : Mode)
    (hbare : bareEnums.contains (String.ofList ty) = true) (hname : PlainName m)
    (hlook : enumLookup T (String.ofList ty) (String.ofList m) = some v) :
    denote T (some (String.ofList ty)) (spell hs (formatEnum mode ty m v)) = some v := by
  refine formatEnum_denotes T _ hs ty m v ?_ mode
  obtain ⟨h1, h2, h3, h4⟩ := hname
  simp only [formatEnum, hbare, if_true, spell, denote, h1, h2, h3, h4, hlook]

def QualOK (ty m : List Char) : Prop :=
  parseNum (ty ++ ['.'] ++ m) = none ∧ quoted "HASH".toList (ty ++ ['.'] ++ m) = none ∧
  quoted "STR".toList (ty ++ ['.'] ++ m) = none ∧ splitDot (ty ++ ['.'] ++ m) = some (ty, m)

instance (ty m : List Char) : Decidable (QualOK ty m) := by unfold QualOK; exact inferInstance

/-- **other enum members** are printed `Class.member`; name and number denote the same member at any position -/
theorem enum_qualified_compact_denotes_verbose (T : EnumTable) (pos : Option String) (hs : List Int) (ty m : List Char) (v : Int)
    (mode : Mode) (hq : bareEnums.contains (String.ofList ty) = false) (hname : QualOK ty m)
    (hlook : enumLookup T (String.ofList ty) (String.ofList m) = some v) :
    denote T pos (spell hs (formatEnum mode ty m v)) = some v := by
  refine formatEnum_denotes T pos hs ty m v ?_ mode
  obtain ⟨h1, h2, h3, h4⟩ := hname
  simp only [formatEnum, hq, Bool.false_eq_true, if_false, spell, denote, h1, h2, h3, h4, hlook]

set_option linter.unusedVariables false in
/-- **a symbolic token is replaced by a number only if that number is exactly its value** (`T` and `pos` play no part) -/
theorem numeric_only_if_exact (T : EnumTable) (pos : Option String) (text : List Char) (num : Int) (mode : Mode) (n : Int)
    (h : applyOutputMode num text mode = .int n) : n = num := by
  cases mode with
  | verbose => cases h
  | numeric => cases h; rfl
  | compact =>
    simp only [applyOutputMode] at h
    split at h
    · cases h; rfl
    · cases h

/-! non-vacuity -/
example : PlainName "Setting".toList := by rw [String.toList_ofList]; decide +kernel
example : QualOK "SlotClass".toList "Helmet".toList := by
  rw [String.toList_ofList, String.toList_ofList]; decide +kernel
example : denote [("LogicType", [("Setting", 12)])] (some "LogicType") "Setting".toList = some 12 := by decide +kernel
example : hashOf "ab".toList = -1635563411 := by decide +kernel
example : spell [] (computeHash .compact "StructureActiveVent".toList) = "-1129453144".toList := by
  rw [String.toList_ofList, String.toList_ofList]; decide +kernel
example : spell [] (computeHash .compact "ab".toList) = "HASH(\"ab\")".toList := by decide +kernel
example : denote [] none "$9E83486D".toList = some 2659403885 := by rw [String.toList_ofList]; decide +kernel
example : computeStringVal "AB".toList = 16706 ∧ strPack "AB".toList = 16706 := by decide

end PV.Props.C08

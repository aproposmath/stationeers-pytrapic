import PV.Proofs.RegAlloc
import PV.Proofs.AllocSound
/-!
# C04 — register allocation never lets one live value overwrite another

Model theorems about the allocator (`PV.RegAlloc`, a replica of register_assignment.py tied to the code by reproducing the
real virtual→physical map of every compiled program of a run).
Whether line intervals cover the real liveness is NOT a theorem (it is false: known findings F-C04-b/c/e); it is decided per
compiled program by the validator `PV.AllocCheck.okProg` / `edgesOk`, whose soundness is `PV.AllocCheck.checkAlloc_sound` /
`checkAlloc_sound_static`.
-/
namespace PV.Props.C04
open PV.RegAlloc

theorem colorsFrom_length (l : List Iv) : ∀ st, (colorsFrom st l).length = l.length := by
  induction l with
  | nil => intro st; rfl
  | cons x xs ih => intro st; simp [colorsFrom, ih]

/-- **overlapping line intervals never share a colour** — every list of intervals sorted by start (the order in which
    `assign_colors` processes them).  No symbol is lost in the `zip`: `colorsFrom_length`.  In the allocator the
    sortedness is the work of `sortByStart` (inside `assignColors`), about which nothing is proved. -/
theorem colors_proper (l : List Iv) (hs : l.Pairwise (fun a b => a.1 ≤ b.1)) :
    (l.zip (assignColorsSorted l)).Pairwise (fun a b => b.1.1 < a.1.2 → a.2 ≠ b.2) :=
  (colorsFrom_pairwise l St.init [] 0 inv_init (fun _ _ => Nat.zero_le _) hs).1

theorem available_spec (parents : List Nat) (r : Nat) (h : r ∈ available parents) : r < 16 ∧ r ∉ parents := by
  obtain ⟨hr, hp⟩ := List.mem_filter.mp h
  exact ⟨List.mem_range.mp hr, by simpa using hp⟩

/-- how `assignSyms` records a register as used -/
theorem mem_addUsed (u : List Nat) (r x : Nat) : x ∈ (if u.contains r then u else u ++ [r]) ↔ x ∈ u ∨ x = r := by
  split
  · rename_i hc
    exact ⟨.inl, fun h => h.elim id (· ▸ List.contains_iff_mem.mp hc)⟩
  · simp

theorem assignSyms_spec {avail : List Nat} {l m m' : List (String × Nat)} {u u' : List Nat}
    (h : assignSyms avail l m u = some (m', u')) :
    (∀ p ∈ m', p ∈ m ∨ (p.2 ∈ avail ∧ p.2 ∈ u')) ∧ (∀ r ∈ u, r ∈ u') := by
  fun_induction assignSyms avail l m u with
  | case1 m u => cases h; exact ⟨fun _ hp => .inl hp, fun _ hr => hr⟩
  | case2 v col rest m u _ _ ih => exact ih h                      -- `v` is mapped already
  | case3 => cases h                                               -- no register for the colour
  | case4 v col rest m u _ r ha ih =>                              -- `v ↦ r` is added
    obtain ⟨h1, h2⟩ := ih h
    refine ⟨fun p hp => ?_, fun q hq => h2 q ((mem_addUsed ..).mpr (.inl hq))⟩
    rcases h1 p hp with hm | hm
    · rcases List.mem_append.mp hm with hm | hm
      · exact .inl hm
      · obtain rfl := List.mem_singleton.mp hm
        exact .inr ⟨List.mem_of_getElem? ha, h2 r ((mem_addUsed ..).mpr (.inr rfl))⟩
    · exact .inr hm

/-- **what a scope assigns**: every new entry of the map is a register r0–r15 that none of the scope's callers has
    blocked, and it is part of the reported register set -/
theorem scope_registers_ok (st st' : AState) (sc : Scope) (h : stepScope st sc = .ok st') :
    ∀ p ∈ st'.mapping, p ∈ st.mapping ∨ (p.2 < 16 ∧ p.2 ∉ parentRegs st sc ∧ p.2 ∈ usedRegisters st') := by
  simp only [stepScope] at h
  split at h
  · cases h
  · rename_i mapping used ha
    cases h
    intro p hp
    refine ((assignSyms_spec ha).1 p hp).imp_right fun ⟨hav, hu⟩ => ?_
    obtain ⟨hlt, hnp⟩ := available_spec _ _ hav
    refine ⟨hlt, hnp, List.mem_filter.mpr ⟨List.mem_range.mpr hlt, ?_⟩⟩
    -- the scope's own entry of `regsBy` holds every register it used
    simp only [List.any_append, List.any_cons, List.any_nil, Bool.or_false, Bool.or_eq_true]
    exact .inr (List.contains_iff_mem.mpr (List.mem_eraseDups.mpr (List.mem_append_left _ hu)))

/-- **no register for the scope's first symbol ⇒ the error, never a mapping**: the first symbol is new and its colour lies
    beyond the available registers.  (A later symbol in the same situation is not covered by this statement.) -/
theorem out_of_registers_is_error (st : AState) (sc : Scope) (v : String) (col : Nat) (rest : List (String × Nat))
    (hcols : (sc.syms.map (·.1)).zip (assignColors (sc.syms.map (·.2))) = (v, col) :: rest)
    (hnew : lookupL st.mapping v = none) (hfull : (available (parentRegs st sc)).length ≤ col) :
    stepScope st sc = .outOfRegisters := by
  simp only [stepScope, hcols, assignSyms, hnew, List.getElem?_eq_none_iff.mpr hfull]

example : assignColorsSorted [(1, 5), (2, 3), (3, 6), (5, 9)] = [0, 1, 1, 0] := by decide
example : [(1, 5), (2, 3), (3, 6), (5, 9)].Pairwise (fun (a b : Iv) => a.1 ≤ b.1) := by decide

end PV.Props.C04

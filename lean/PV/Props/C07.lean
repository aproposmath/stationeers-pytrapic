import PV.Model.Regions
import PV.Proofs.Cfg
/-!
# C07 — when the top-level script finishes, nothing else runs

Function bodies are entered only through calls: `checkFall` is run on every real output; the end of a terminating main script
followed by a called function is the one allowed edge (known finding F-C07-a, encoded in stored references).
-/
namespace PV.Props.C07
open PV.IC10 PV.Cfg PV.Regions

variable {R V : Type} [DecidableEq R] [Special R]

/-- **a step from a line with static successors leaves its region only by a `jal` / `j` to a function entry, off the end of
    the program, or along an allowed edge** (or the chip stops).  A line whose target is in a register — first disjunct: a
    return, `jr`, a branch through a register — is outside the check: nothing is said about where it lands. -/
theorem checkFall_sound (sem : Sem V) (env : Env V) (P : List (Instr R V)) (owner : Nat → Nat) (entries : List Nat)
    (allow : List (Nat × Nat)) (hc : checkFall sem P owner entries allow = true)
    (s : St R V) (i : Instr R V) (hh : s.halted = false) (hi : P[s.pc]? = some i) :
    succs sem s.pc i = none ∨
    (step sem env P s).halted = true ∨
    P.length ≤ (step sem env P s).pc ∨
    owner (step sem env P s).pc = owner s.pc ∨
    (isCall i.kind = true ∧ (step sem env P s).pc ∈ entries) ∨
    (s.pc, (step sem env P s).pc) ∈ allow := by
  cases hs : succs sem s.pc i with
  | none => exact Or.inl rfl
  | some l =>
    right
    rcases step_pc_mem_succs sem env P s i l hh hi hs with h | hmem
    · exact Or.inl h
    · right
      have := all_zipIdx hc hi
      simp only [hs, List.all_eq_true] at this
      have he := this _ hmem
      unfold edgeOk at he
      simp only [Bool.or_eq_true, decide_eq_true_eq, beq_iff_eq, Bool.and_eq_true, List.contains_iff_mem] at he
      rcases he with ((h1 | h2) | h3) | h4
      · exact Or.inl h1
      · exact Or.inr (Or.inl h2)
      · exact Or.inr (Or.inr (Or.inl h3))
      · exact Or.inr (Or.inr (Or.inr h4))

/-- reaching the line after the last one stops the chip without any effect -/
theorem end_halts (sem : Sem V) (env : Env V) (P : List (Instr R V)) (s : St R V) (hh : s.halted = false)
    (hpc : P.length ≤ s.pc) : (step sem env P s).halted = true ∧ (step sem env P s).trace = s.trace := by
  rw [step_end hh hpc]; exact ⟨rfl, rfl⟩

/-- **a stopped chip performs no further effect and does not keep running** -/
theorem halted_forever (sem : Sem V) (env : Env V) (P : List (Instr R V)) (n : Nat) (s : St R V) (hh : s.halted = true) :
    run sem env P n s = s := run_halted hh n

/-- so: once the top-level script runs off the end, the trace is final -/
theorem after_end_nothing_runs (sem : Sem V) (env : Env V) (P : List (Instr R V)) (s : St R V) (hh : s.halted = false)
    (hpc : P.length ≤ s.pc) (n : Nat) : (run sem env P (n + 1) s).trace = s.trace ∧ (run sem env P (n + 1) s).halted = true := by
  rw [run_end hh hpc]; exact ⟨rfl, rfl⟩

end PV.Props.C07

import PV.Model.Process
/-!
# C11 — a compilation's result does not depend on what was compiled before

Over the process model `PV.Process` (cells: output mode, constexpr memo, prefab hash set; the passes uninterpreted).
The idea is one invariant (`Inv`) under which a request sees exactly what it would see in a fresh process, and which every
request keeps.
The model is tied to the code by the global-state census of `harness/c11.py` (the only module-level cells that change
across calls are the three modelled ones) and by comparing histories with fresh-process results.
-/
namespace PV.Props.C11
open PV.Process

variable {S : Sys}

structure Inv (g : G S) : Prop where
  memo : ∀ p ∈ g.cache, p.2 = S.pyEval p.1
  hashes : ∀ h, g.hashes = some h → h = S.allHashes

theorem inv_fresh (m : Bool) : Inv (G.fresh S m) := ⟨nofun, nofun⟩

theorem lookup_sound (cache : List (S.Key × S.Val)) (k : S.Key) (v : S.Val)
    (hc : ∀ p ∈ cache, p.2 = S.pyEval p.1) (h : lookup cache k = some v) : v = S.pyEval k := by
  unfold lookup at h
  cases hf : cache.find? (fun p => p.1 == k) with
  | none => rw [hf] at h; cases h
  | some p =>
    rw [hf] at h
    cases h
    show p.2 = S.pyEval k
    rw [hc p (List.mem_of_find?_eq_some hf), show p.1 = k by simpa using List.find?_some hf]

theorem evalM_eq (g : G S) (hi : Inv g) : evalM g = S.pyEval := by
  funext k
  unfold evalM
  cases h : lookup g.cache k with
  | none => rfl
  | some v => exact lookup_sound g.cache k v hi.memo h

theorem hashes_eq {g : G S} (hi : Inv g) : g.hashes.getD S.allHashes = S.allHashes := by
  cases h : g.hashes with
  | none => rfl
  | some x => simp [hi.hashes x h]

/-- **same result as in a fresh process**, whatever was compiled before -/
theorem step_result_fresh (g : G S) (hi : Inv g) (req : S.Src × S.Opts) : (step g req).2 = freshResult S req := by
  unfold freshResult step
  dsimp only
  rw [evalM_eq g hi, hashes_eq hi, evalM_eq _ (inv_fresh false), hashes_eq (inv_fresh false)]

theorem step_inv (g : G S) (hi : Inv g) (req : S.Src × S.Opts) : Inv (step g req).1 := by
  unfold step
  dsimp only
  refine ⟨?_, ?_⟩
  · intro p hp
    rcases List.mem_append.mp hp with h | h
    · exact hi.memo p h
    · obtain ⟨k, _, rfl⟩ := List.mem_map.mp h
      rfl
  · intro h hh
    simp only [Option.some.injEq] at hh
    rw [← hh]
    exact hashes_eq hi

theorem runAll_fresh (reqs : List (S.Src × S.Opts)) : ∀ (g : G S), Inv g → (runAll g reqs).2 = reqs.map (freshResult S) := by
  induction reqs with
  | nil => intro g _; rfl
  | cons r rest ih =>
    intro g hi
    simp only [runAll, List.map_cons]
    rw [step_result_fresh g hi r, ih (step g r).1 (step_inv g hi r)]

/-- **history independence**: every result of a long-lived process equals the fresh-process result of its request -/
theorem history_independent (reqs : List (S.Src × S.Opts)) (m : Bool) :
    (runAll (G.fresh S m) reqs).2 = reqs.map (freshResult S) :=
  runAll_fresh reqs (G.fresh S m) (inv_fresh m)

/-- the mode a compilation runs under comes from its own options, not from the previous call -/
theorem mode_is_set_from_options (g : G S) (req : S.Src × S.Opts) : (step g req).1.mode = S.compact (S.scan req.1 req.2) := rfl

/-! non-vacuity: a tiny system where the passes DO consult mode, evaluator and hashes -/
@[reducible] def demo : Sys :=
  { Src := Nat, Opts := Bool, Res := Nat × Bool × Nat, Key := Nat, Val := Nat,
    scan := fun _ o => o, compact := fun o => o,
    core := fun s _ mode ev hs => ((ev s, mode, hs.length), [s, s + 1]),
    pyEval := fun k => k * 7, allHashes := [1, 2, 3] }

example : (runAll (G.fresh demo true) [((2 : Nat), false), ((3 : Nat), true), ((2 : Nat), false)]).2
    = [((14 : Nat), false, (3 : Nat)), ((21 : Nat), true, (3 : Nat)), ((14 : Nat), false, (3 : Nat))] := by decide

end PV.Props.C11

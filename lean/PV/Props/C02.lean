import PV.Props.C05
import PV.Props.C08
import PV.Props.C09
import PV.Props.C15
/-!
# C02 — every combination of compile options preserves behaviour   (partial)

One statement per option whose effect is textual; each is a corollary of a model theorem proved for its own property:
* comments (`original_code_as_comment`, `generated_comments`, `append_version`): `comment_is_invisible` — text appended to a
  line after blanks and `#` is not seen by the loader (C09);
* `compact`: `compact_tokens_same_value` — every symbolic token denotes the same number in both output modes (C08);
* `remove_labels`: `label_is_next_instruction_index` — the number that replaces a label is the index of the instruction that
  follows it (C05); `remove_labels_preserves_behaviour` (C05 `label_removal_preserves_traces`);
* options given by `# pytrapic:` comments: `pragma_equals_api` (C15).
For `inline_functions`, `tail_call_optimization` and `use_push_pop_functions` (different lowerings of the same source) no
theorem about the real generator exists; they are explored by running the real outputs of one source under many option
vectors against the reference semantics (harness/c02.py).
-/
namespace PV.Props.C02
open PV.IC10.Parse

theorem comment_is_invisible (l blanks note : List Char) (h : ∀ c ∈ l, c ≠ '#')
    (hbal : l.foldl (fun q c => if c = '"' then !q else q) false = false) (hb : ∀ c ∈ blanks, c = ' ') :
    stripComment (l ++ blanks ++ '#' :: note) false = l ++ blanks :=
  PV.Props.C09.version_note_is_comment l blanks note h hbal hb

theorem compact_tokens_same_value (T : PV.Tokens.EnumTable) (pos : Option String) (hs : List Int) (s : List Char) :
    PV.Tokens.denote T pos (PV.Tokens.spell hs (PV.Tokens.computeHash .compact s)) =
    PV.Tokens.denote T pos (PV.Tokens.spell hs (PV.Tokens.computeHash .verbose s)) := by
  rw [PV.Props.C08.hash_compact_denotes_verbose, PV.Props.C08.hash_compact_denotes_verbose]

theorem label_is_next_instruction_index (l : String) (pre post : List PV.Labels.Line) (h : PV.Labels.defCount l pre = 0) :
    PV.Labels.substTok (pre ++ PV.Labels.Line.label l :: post) l = toString (PV.Labels.countInstrs pre) :=
  PV.Props.C05.substTok_label l pre post h

/-- compiling a source with its directives is compiling it with the options the directives produce (the compile entry point
    applies the scanner first; applying it to already scanned options changes nothing) -/
theorem pragma_equals_api {R : Type} (core : List Char → PV.Pragma.Opts → R) (src : List Char) (o : PV.Pragma.Opts) :
    (fun s b => core s (PV.Pragma.scan s b)) src (PV.Pragma.scan src o) = (fun s b => core s (PV.Pragma.scan s b)) src o :=
  PV.Props.C15.scan_eq_api core src o

/-- `remove_labels` on the machine: deleting the label lines `L` and renumbering the jump targets changes no effect trace and
    no halting behaviour — every environment, any number of steps; the labelled program only spends extra steps on its label
    lines (programs without `jal` / relative branches: `PV.Strip.Ok`) -/
theorem remove_labels_preserves_behaviour {R V : Type} [DecidableEq R] [PV.IC10.Special R] (sem : PV.IC10.Sem V) (lit : Nat → V)
    (L : Nat → Bool) (env : PV.IC10.Env V) (P : List (PV.IC10.Instr R V)) (hok : PV.Strip.Ok sem lit L P) (regs : R → V) (mem : Nat → V) :
    let s0 : PV.IC10.St R V := ⟨regs, mem, 0, [], false⟩
    (∀ m, ∃ k, k ≤ m ∧ (PV.IC10.run sem env P m s0).trace = (PV.IC10.run sem env (PV.Strip.strip sem lit L P) k s0).trace ∧
        (PV.IC10.run sem env P m s0).halted = (PV.IC10.run sem env (PV.Strip.strip sem lit L P) k s0).halted) ∧
    (∀ k, ∃ m, k ≤ m ∧ (PV.IC10.run sem env P m s0).trace = (PV.IC10.run sem env (PV.Strip.strip sem lit L P) k s0).trace ∧
        (PV.IC10.run sem env P m s0).halted = (PV.IC10.run sem env (PV.Strip.strip sem lit L P) k s0).halted) :=
  PV.Props.C05.label_removal_preserves_traces sem lit L env P hok _ _ (PV.Props.C05.initial_states_related L regs mem)

end PV.Props.C02

import PV.Model.Daemon
/-!
# C14 — the compile daemon answers every request with exactly one line

Model: `PV.Daemon.run` / `processInput` (read loop and try/except/finally skeleton of
`mod_daemon.py`).  The compiler and the codecs are parameters: the theorems hold for *every*
behaviour of them (including raising), which is the "malformed, undecodable or failing requests"
quantifier of the property.
-/
namespace PV.Props.C14
open PV.Daemon

variable {J : Type}

theorem requests_blank {raw : List Char} {rest : List (List Char)} (hc : classify raw = .blank) :
    requests (raw :: rest) = requests rest := by
  simp only [requests, hc]

theorem requests_exit {raw : List Char} {rest : List (List Char)} (hc : classify raw = .exit) :
    requests (raw :: rest) = [] := by
  simp only [requests, hc]

theorem requests_payload {raw l : List Char} {rest : List (List Char)} (hc : classify raw = .payload l) :
    requests (raw :: rest) = l :: requests rest := by
  simp only [requests, hc]

theorem run_eq_filterMap (h : Handler J) (lines : List (List Char)) :
    run h lines = (requests lines).filterMap (processInput h) := by
  induction lines with
  | nil => rfl
  | cons raw rest ih =>
    cases hc : classify raw with
    | blank => simp only [run, requests, hc, ih]
    | exit => simp only [run, requests, hc, List.filterMap_nil]
    | payload l =>
      simp only [run, requests, hc, List.filterMap_cons]
      cases processInput h l <;> simp only [ih]

/-- every non-empty request produces a response object: the `finally:` clause always has something
    to print, whatever the decoders and the compiler do. -/
theorem respond_total (h : Handler J) (line : List Char) : (processInput h line).isSome = true := by
  unfold processInput body
  cases h.decode line with
  | error e => cases e <;> rfl
  | ok m =>
    obtain ⟨action, code, options⟩ := m
    by_cases ha : action ≠ compileAction
    · simp [ha]
    · simp only [ha, if_false]
      cases code with
      | none => rfl
      | some modules =>
        dsimp only
        cases h.compile modules options <;> rfl

/-- **exactly one line per non-empty request line, in request order**: the i-th output answers the
    i-th request. -/
theorem one_line_per_request (h : Handler J) (lines : List (List Char)) :
    (run h lines).map some = (requests lines).map (processInput h) := by
  rw [run_eq_filterMap, List.map_filterMap_some_eq_filter_map_isSome, List.filter_eq_self]
  intro a ha
  obtain ⟨l, _, rfl⟩ := List.mem_map.1 ha
  exact respond_total h l

theorem output_count (h : Handler J) (lines : List (List Char)) :
    (run h lines).length = (requests lines).length := by
  have := congrArg List.length (one_line_per_request h lines)
  simpa using this

/-- **faults do not stop the daemon or disturb later answers**: whatever the first line is (blank,
    undecodable, wrong shape, crashing the compiler — anything but EXIT), the answers to the
    remaining lines are exactly what they would have been on their own. -/
theorem faults_do_not_stop (h : Handler J) (raw : List (Char)) (rest : List (List Char))
    (hne : classify raw ≠ .exit) :
    ∃ pre, run h (raw :: rest) = pre ++ run h rest ∧ pre.length ≤ 1 := by
  rw [run_eq_filterMap, run_eq_filterMap]
  cases hc : classify raw with
  | blank => exact ⟨[], by rw [requests_blank hc]; rfl, Nat.zero_le 1⟩
  | exit => exact absurd hc hne
  | payload l =>
    rw [requests_payload hc, List.filterMap_cons]
    cases processInput h l with
    | none => exact ⟨[], rfl, Nat.zero_le 1⟩
    | some r => exact ⟨[r], rfl, Nat.le_refl 1⟩

theorem requests_append_exit (pre post : List (List Char)) {raw : List Char} (hx : classify raw = .exit) :
    requests (pre ++ raw :: post) = requests pre := by
  induction pre with
  | nil => exact requests_exit hx
  | cons p pre ih =>
    rw [List.cons_append]
    cases hc : classify p with
    | blank => rw [requests_blank hc, requests_blank hc, ih]
    | exit => rw [requests_exit hc, requests_exit hc]
    | payload l => rw [requests_payload hc, requests_payload hc, ih]

/-- **EXIT stops it**: nothing after an EXIT line is answered. -/
theorem stops_on_exit (h : Handler J) (pre post : List (List Char)) (raw : List Char)
    (hx : classify raw = .exit) : run h (pre ++ raw :: post) = run h (pre ++ [raw]) := by
  rw [run_eq_filterMap, run_eq_filterMap, requests_append_exit pre post hx, requests_append_exit pre [] hx]

/-- a bad-JSON request is answered by the "Invalid JSON" object, any other failure by an internal-error
    object — never by silence. -/
theorem fault_answers (h : Handler J) (line : List Char) :
    (h.decode line = .error none → processInput h line = some h.invalidJson) ∧
    (∀ m, h.decode line = .error (some m) → processInput h line = some (h.internalError m)) := by
  constructor
  · intro hd; simp [processInput, body, hd]
  · intro m hd; simp [processInput, body, hd]

/-! non-vacuity -/
private def demo : Handler Nat :=
  { decode := fun l => if l = "bad".toList then .error none else if l = "boom".toList then .error (some [])
                       else .ok ("compile".toList, some l, [])
    compile := fun m _ => if m = "crash".toList then .error [] else .ok m.length
    invalidAction := fun _ => 1000, noCode := 1001, invalidJson := 1002, internalError := fun _ => 1003 }

example : run demo ["abc".toList, "  ".toList, "bad\r".toList, "crash".toList, " boom ".toList, "xy".toList,
    "EXIT".toList, "late".toList] = [3, 1002, 1003, 1003, 2] := by decide +kernel

end PV.Props.C14

import PV.Proofs.B64
/-!
# C18 — share links round-trip

Model: `PV.B64.encodeTail` / `decodeTail` (the base64 / alphabet-substitution / padding part of
`types.encode_data` / `types.decode_data`); zlib and JSON are parameters with their inverse laws as
hypotheses (`share_roundtrip`).
-/
namespace PV.Props.C18
open PV.B64

/-- **C18 (byte level).** For every byte string, what `decode_data` hands to zlib is what
    `encode_data` got from zlib. -/
theorem b64_roundtrip (bs : List Nat) (hb : ∀ b ∈ bs, b < 256) :
    decodeTail (encodeTail bs) = some bs := by
  rw [decodeTail, repad_encodeTail, a2b_b64encode bs hb]

set_option linter.unusedVariables false in
/-- **C18 (alphabet).** The encoded form consists only of letters, digits, `-` and `_`.  (`hb` is not needed: the claim holds
    of any numbers, `encChar` falling back to `'A'`.) -/
theorem urlsafe (bs : List Nat) (hb : ∀ b ∈ bs, b < 256) :
    ∀ c ∈ encodeTail bs, urlSafe c = true :=
  urlSafe_encodeTail bs

/-- **C18 (whole pipeline).** With zlib and JSON as parameters satisfying their inverse laws on
    the values that occur, `decode_data (encode_data d) = d`. -/
theorem share_roundtrip {D : Type}
    (jsonDump : D → List Nat) (jsonLoad : List Nat → Option D)
    (zc : List Nat → List Nat) (zd : List Nat → Option (List Nat))
    (d : D)
    (hj : jsonLoad (jsonDump d) = some d)
    (hz : zd (zc (jsonDump d)) = some (jsonDump d))
    (hbytes : ∀ b ∈ zc (jsonDump d), b < 256) :
    ((decodeTail (encodeTail (zc (jsonDump d)))).bind zd).bind jsonLoad = some d := by
  rw [b64_roundtrip _ hbytes]
  simp [hz, hj]

/-- non-vacuity: the hypotheses are met by a concrete byte string, and the encoding is non-trivial -/
example : decodeTail (encodeTail [120, 156, 255, 0, 62]) = some [120, 156, 255, 0, 62] :=
  b64_roundtrip _ (by decide)
example : encodeTail [251, 255] = ['-', '_', '8'] := by
  unfold encodeTail b64encode encChar stdAlphabet
  rw [String.toList_ofList]
  decide +kernel

end PV.Props.C18

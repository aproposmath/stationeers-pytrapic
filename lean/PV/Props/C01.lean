import PV.Gen.Tables
/-!
# C01 — compiled IC10 behaves like the source   (partial)

The branch tables: the comparison-suffix tables regenerated from utils.py on every run mean what the code generator
takes them to mean, for every operator and all integers (NaN is outside the model; the version for any value
semantics with a linear order is `LinCond` in `PV.Props.C01Core`).
The whole-program statement (equal effect traces of source and emitted code) is established for a core sub-language in
`PV.Props.C01Core` and explored by the executable oracle (`harness/c01.py`) beyond it.
-/
namespace PV.Props.C01
open PV.Gen

def pyCmp (op : String) (a b : Int) : Option Bool :=
  match op with
  | "==" => some (decide (a = b))
  | "!=" => some (decide (a ≠ b))
  | "<" => some (decide (a < b))
  | "<=" => some (decide (a ≤ b))
  | ">" => some (decide (a > b))
  | ">=" => some (decide (a ≥ b))
  | _ => none

/-- meaning of an IC10 condition suffix (`beq`, `bne`, `blt`, … / `seq`, `sne`, …) -/
def icCond (suffix : String) (a b : Int) : Option Bool :=
  match suffix with
  | "eq" => some (decide (a = b))
  | "ne" => some (decide (a ≠ b))
  | "lt" => some (decide (a < b))
  | "le" => some (decide (a ≤ b))
  | "gt" => some (decide (a > b))
  | "ge" => some (decide (a ≥ b))
  | _ => none

/-- both tables have exactly one row for each of the six comparison operators (in whatever order the source lists them) -/
theorem tables_cover :
    (∀ op ∈ ["==", "!=", "<", "<=", ">", ">="], op ∈ cmpSuffix.map (·.1) ∧ op ∈ negCmpSuffix.map (·.1)) ∧
    (∀ op ∈ cmpSuffix.map (·.1), op ∈ ["==", "!=", "<", "<=", ">", ">="]) ∧
    (∀ op ∈ negCmpSuffix.map (·.1), op ∈ ["==", "!=", "<", "<=", ">", ">="]) ∧
    cmpSuffix.length = 6 ∧ negCmpSuffix.length = 6 := by decide

/-- **the set instruction computes the comparison**: for every row `(op, suffix)` of `get_comparison_suffix` -/
theorem cmp_set_correct (op suffix : String) (h : (op, suffix) ∈ cmpSuffix) (a b : Int) :
    ∃ c, pyCmp op a b = some c ∧ icCond suffix a b = some c := by
  simp only [cmpSuffix, List.mem_cons, Prod.mk.injEq, List.mem_nil_iff, or_false] at h
  rcases h with ⟨rfl, rfl⟩ | ⟨rfl, rfl⟩ | ⟨rfl, rfl⟩ | ⟨rfl, rfl⟩ | ⟨rfl, rfl⟩ | ⟨rfl, rfl⟩
  all_goals simp only [pyCmp, icCond]
  all_goals exact ⟨_, rfl, rfl⟩

theorem decide_compl {p q : Prop} [Decidable p] [Decidable q] (h : q ↔ ¬p) : decide q = !decide p :=
  (decide_eq_decide.2 h).trans (decide_not ..)

/-- **the emitted branch is taken exactly when the source condition is false**: `if a <op> b:` / `while a <op> b:` emit
    `b‹suffix›` to the else / end label, for the row `(op, suffix)` of `get_negated_comparison_suffix` -/
theorem branch_neg_correct (op suffix : String) (h : (op, suffix) ∈ negCmpSuffix) (a b : Int) :
    ∃ c, pyCmp op a b = some c ∧ icCond suffix a b = some (!c) := by
  simp only [negCmpSuffix, List.mem_cons, Prod.mk.injEq, List.mem_nil_iff, or_false] at h
  rcases h with ⟨rfl, rfl⟩ | ⟨rfl, rfl⟩ | ⟨rfl, rfl⟩ | ⟨rfl, rfl⟩ | ⟨rfl, rfl⟩ | ⟨rfl, rfl⟩
  all_goals simp only [pyCmp, icCond]
  all_goals exact ⟨_, rfl, congrArg some (decide_compl (by simp))⟩

/-- the negated table negates the plain one: `if not a <op> b` (which uses `get_comparison_suffix` for its branch) jumps
    exactly when `a <op> b` holds -/
theorem negated_table_negates (op s1 s2 : String) (h1 : (op, s1) ∈ negCmpSuffix) (h2 : (op, s2) ∈ cmpSuffix) (a b : Int) :
    ∃ c, icCond s2 a b = some c ∧ icCond s1 a b = some (!c) := by
  obtain ⟨c, hc, hn⟩ := branch_neg_correct op s1 h1 a b
  obtain ⟨c', hc', hs⟩ := cmp_set_correct op s2 h2 a b
  obtain rfl : c = c' := Option.some.inj (hc.symm.trans hc')
  exact ⟨c, hs, hn⟩

/-- the device-state branch variants: `if sdse(d)` is lowered to the branch on the *opposite* state -/
theorem branch_variant_table :
    (∀ p ∈ branchVariant, p ∈ [("sdse", "bdns"), ("sdns", "bdse")]) ∧ (∀ p ∈ [("sdse", "bdns"), ("sdns", "bdse")], p ∈ branchVariant) := by decide

/-! non-vacuity -/
example : ("<", "ge") ∈ negCmpSuffix := by decide
example : icCond "ge" 3 5 = some false ∧ pyCmp "<" 3 5 = some true := by decide

end PV.Props.C01

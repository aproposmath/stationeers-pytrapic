import PV.Model.RaInsert
import PV.Gen.Tables
import PV.Proofs.Leaf
import PV.Proofs.CoreComp
/-!
# C06 — calls return to their call site; arguments and results arrive intact   (partial)

Machine facts about `jal` / `j ra` give `call_return_roundtrip` at any nesting depth, which is why preserving `ra` across inner
calls suffices; `addRaFixed_shape` is about the model of `add_ra_instructions` in the fixed-slot convention (`pop ra` sits after the
function's end label, which every exit path passes); the argument slots `RV-1-i` and the result slot `RV` are different stack cells.
Leaf bodies (static check, `Proofs/Leaf.lean`) and calls in the proved core language further down.
Whole-program call discipline of real outputs is monitored by the shadow call stack of the machine run (harness/c06.py).
-/
namespace PV.Props.C06
open PV.IC10 PV.RaInsert

section machine
variable {R V : Type} [DecidableEq R] [Special R]

set_option linter.unusedVariables false in -- `hd` is not needed: a `jal` outcome carries no destination value
theorem jal_sets_ra (sem : Sem V) (env : Env V) (P : List (Instr R V)) (s : St R V) (i : Instr R V) (n : Nat)
    (hh : s.halted = false) (hi : P[s.pc]? = some i) (hk : i.kind = .jal) (hd : i.dst = none)
    (ht : sem.toAddr ((i.args.map (Opnd.eval s.regs)).headD (sem.ofNat 0)) = some n) :
    (step sem env P s).pc = n ∧ (step sem env P s).regs Special.ra = sem.ofNat (s.pc + 1) ∧
    (step sem env P s).trace = s.trace ∧ (step sem env P s).mem = s.mem := by
  rw [step_jal hh hi hk ht]
  exact ⟨rfl, upd_same _ _ _, rfl, rfl⟩

theorem return_lands_on_ra (sem : Sem V) (env : Env V) (P : List (Instr R V)) (s : St R V) (i : Instr R V) (n : Nat)
    (hh : s.halted = false) (hi : P[s.pc]? = some i) (hk : i.kind = .jmp) (ha : i.args = [.reg Special.ra])
    (ht : sem.toAddr (s.regs Special.ra) = some n) :
    (step sem env P s).pc = n ∧ (step sem env P s).trace = s.trace ∧ (step sem env P s).mem = s.mem ∧
    (step sem env P s).regs Special.sp = s.regs Special.sp := by
  rw [step_jmp hh hi hk (by rw [ha]; exact ht)]
  exact ⟨rfl, rfl, rfl, rfl⟩

/-- **a return whose `ra` still holds what the call stored resumes right after the call** -/
theorem call_return_roundtrip (sem : Sem V) (env : Env V) (P : List (Instr R V)) (s t : St R V) (i j : Instr R V) (n : Nat)
    (hs : s.halted = false) (hi : P[s.pc]? = some i) (hik : i.kind = .jal) (hid : i.dst = none)
    (hit : sem.toAddr ((i.args.map (Opnd.eval s.regs)).headD (sem.ofNat 0)) = some n)
    (ht : t.halted = false) (hj : P[t.pc]? = some j) (hjk : j.kind = .jmp) (hja : j.args = [.reg Special.ra])
    (hpres : t.regs Special.ra = (step sem env P s).regs Special.ra)
    (hline : sem.toAddr (sem.ofNat (s.pc + 1)) = some (s.pc + 1)) :
    (step sem env P t).pc = s.pc + 1 := by
  have h1 := (jal_sets_ra sem env P s i n hs hi hik hid hit).2.1
  rw [h1] at hpres
  exact (return_lands_on_ra sem env P t j (s.pc + 1) ht hj hjk hja (by rw [hpres]; exact hline)).1

end machine

theorem lastIdx_last {α : Type} (p : α → Bool) (pre post : List α) (e : α) (he : p e = true) (hpost : ∀ x ∈ post, p x = false) :
    lastIdx p (pre ++ e :: post) = some pre.length := by
  have hpostnone : lastIdx p post = none := by
    induction post with
    | nil => rfl
    | cons x xs ih =>
      have := ih (fun y hy => hpost y (by simp [hy]))
      simp [lastIdx, this, hpost x (by simp)]
  induction pre with
  | nil => simp [lastIdx, hpostnone, he]
  | cons x xs ih => simp [lastIdx, ih]

theorem insert_after_end (pre post : List Ins) (e x : Ins) :
    (pre ++ e :: post).insertIdx (pre.length + 1) x = pre ++ e :: x :: post := by
  induction pre with
  | nil => simp
  | cons y ys ih => simp [List.insertIdx_succ_cons, ih]

/-- **`push ra` directly after the function label, `pop ra` directly after the end label** — nothing else changes -/
theorem addRaFixed_shape (name : String) (lbl e : Ins) (pre post : List Ins)
    (hcalls : (lbl :: pre ++ e :: post).any isCall = true) (hrets : (lbl :: pre ++ e :: post).any isReturn = true)
    (he : isEndLabel name e = true) (hpost : ∀ x ∈ post, isEndLabel name x = false) :
    addRaFixed name (lbl :: pre ++ e :: post) = lbl :: pushRa :: pre ++ e :: popRa :: post := by
  unfold addRaFixed
  rw [hcalls, hrets]
  simp only [Bool.and_self, if_true]
  have hl : lastIdx (isEndLabel name) (lbl :: pre ++ e :: post) = some (pre.length + 1) := by
    have := lastIdx_last (isEndLabel name) (lbl :: pre) post e he hpost
    simpa using this
  rw [hl]
  simp only
  have h1 : (lbl :: pre ++ e :: post).insertIdx 1 pushRa = lbl :: pushRa :: (pre ++ e :: post) := by
    simp [List.insertIdx_succ_cons]
  rw [h1]
  have h2 := insert_after_end (lbl :: pushRa :: pre) post e popRa
  simp only [List.length_cons, List.cons_append] at h2
  have h3 : pre.length + 1 + 2 = pre.length + 1 + 1 + 1 := by omega
  rw [h3]
  exact h2

/-- a function that makes no call, or never returns, is left unchanged -/
theorem addRa_unchanged (name : String) (pp : Bool) (code : List Ins) (h : (code.any isCall && code.any isReturn) = false) :
    addRa name pp code = code := by
  unfold addRa addRaPushPop addRaFixed
  cases pp <;> simp [h]

/-- the result slot `RV` and the argument slots `RV-1-i` are pairwise different cells, whatever value `RV` is regenerated to -/
theorem slots_distinct (i j : Nat) (hi : i < PV.Gen.returnValueAddress) (hj : j < PV.Gen.returnValueAddress) :
    PV.Gen.returnValueAddress - 1 - i ≠ PV.Gen.returnValueAddress ∧
    (i ≠ j → PV.Gen.returnValueAddress - 1 - i ≠ PV.Gen.returnValueAddress - 1 - j) := by
  generalize PV.Gen.returnValueAddress = rv at hi hj ⊢
  omega

theorem slots_in_stack : PV.Gen.returnValueAddress < PV.IC10.stackSize := by decide

/-! non-vacuity -/
example : addRaFixed "f" [⟨"f:", [], none⟩, ⟨"jal", ["g"], none⟩, ⟨"fend:", [], none⟩, ⟨"j", ["ra"], none⟩]
    = [⟨"f:", [], none⟩, pushRa, ⟨"jal", ["g"], none⟩, ⟨"fend:", [], none⟩, popRa, ⟨"j", ["ra"], none⟩] := by decide +kernel

/-! ### leaf functions (bodies without a call): the static check `PV.Leaf.checkLeaf`, run on every real function body by
`harness/c06.py` (`check-leaf`), implies that the body can only be left through `j ra` to the caller's return line -/

section leaf
variable {R V : Type} [DecidableEq R] [Special R]

/-- **a call to an accepted leaf body returns to the line after the call** (`PV.Leaf.call_leaf_returns`) -/
theorem leaf_call_returns_to_call_site (sem : Sem V) (env : Env V) (P : List (Instr R V)) (lo hi : Nat)
    (hsp : (Special.sp : R) ≠ Special.ra) (hck : PV.Leaf.checkLeaf sem P lo hi = true)
    (hof : ∀ n, sem.toAddr (sem.ofNat n) = some n) (hlo : lo < hi)
    (s : St R V) (c : Nat) (v : V) (d : Option R) (rest : List (Opnd R V)) (hh : s.halted = false) (hpc : s.pc = c)
    (hi' : P[c]? = some ⟨.jal, d, Opnd.num v :: rest⟩) (hv : sem.toAddr v = some lo) (hd : d ≠ some Special.ra) :
    ∀ n, (∀ k, k ≤ n → (run sem env P (k + 1) s).halted = true ∨ PV.Leaf.Inside lo hi (run sem env P (k + 1) s)) ∨
         (∃ k, k < n ∧ PV.Leaf.Inside lo hi (run sem env P (k + 1) s) ∧
                 run sem env P (k + 2) s = { run sem env P (k + 1) s with pc := c + 1 }) :=
  (PV.Leaf.call_leaf_returns sem env P lo hi hsp hck hof hlo s c v d rest hh hpc hi' hv hd).2.2

end leaf

/-! ### calls in the proved core language: the call of a procedure — which may itself call procedures of smaller rank, saving `ra` on the call
stack — comes back to the line after the `jal` at the same stack depth, having done exactly what the procedure body does: `PV.Core.sim` at
the statement `call k` (`harness/c01.py` ties `compProg (flatten src)` to the real pre-allocation code of programs with functions) -/

section corecall
open PV.Core
variable {V : Type}

theorem core_call_returns (sem : Sem V) (lo : Nat) (env : Env V) (lit : Nat → V) (entry : Nat → Nat) (F : Nat → Stmt V) (P : List (Instr Reg V))
    (rk : Nat → Nat) (okP : Nat → Prop)
    (hlit : ∀ n, sem.toAddr (lit n) = some n) (hof : ∀ n, sem.toAddr (sem.ofNat n) = some n) (hlo : lo ≤ stackSize)
    (hok : ∀ k, okP k → ProcOk sem lo lit entry F P rk okP k) (k : Nat) (hk : okP k)
    (c : Nat) (hcode : P[c]? = some ⟨.jal, none, [.num (lit (entry k))]⟩)
    (fuel : Nat) (σ σ' : SSt V) (st : St Reg V) (d : Nat) (stk : List V) (hd : d + (rk k + 1) ≤ lo) (hat : At sem lo st σ c d stk)
    (h : exec sem env F fuel (.call k) σ = .done σ') :
    ∃ n, At sem lo (run sem env P n st) σ' (c + 1) d stk := by
  have ⟨n, hn, _⟩ := (sim sem lo env lit entry F P rk okP hlit hof hlo hok fuel (.call k) (· = k) (rk k + 1) (fun j hj => hj.symm ▸ ⟨hk, Nat.lt_succ_self _⟩)
    rfl c 0 0 0 σ st d stk hd (codeAt_cons.2 ⟨hcode, codeAt_nil.2 trivial⟩) hat).1 _ _ h
  exact ⟨n, hn⟩

end corecall

/-! non-vacuity: the body at lines 2..3 is accepted -/
section leafdemo
instance : Special Nat := ⟨16, 17⟩
def leafSem : Sem Int :=
  { alu := fun _ _ => 0, cond := fun _ _ => false, toAddr := fun v => if v < 0 then none else some v.toNat,
    ofNat := fun n => (n : Int), truthy := fun v => v != 0 }
def leafP : List (Instr Nat Int) :=
  [⟨.jal, none, [.num 2]⟩, ⟨.hcf, none, []⟩, ⟨.store "s", none, [.num 1]⟩, ⟨.jmp, none, [.reg 17]⟩]
example : PV.Leaf.checkLeaf leafSem leafP 2 4 = true := by decide
example : PV.Leaf.checkLeaf leafSem leafP 0 4 = false := by decide   -- a body with a call is not a leaf
end leafdemo

end PV.Props.C06

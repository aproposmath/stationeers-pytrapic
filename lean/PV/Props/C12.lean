import PV.Model.Constexpr
import PV.Proofs.Digits
/-!
# C12 — constexpr calls are replaced by exactly what the function returns   (partial)

The scan rejects a constexpr source that contains `open`, `eval` or `exec` as a whole word (delimited by non-word
characters or the ends of the text), wherever it stands; the evaluation script, hence (Python being deterministic) the
value, is a function of the constexpr sources and the call text only; an integer result printed by `format_int` reads
back as itself (from C09).
"Ordinary Python evaluation" itself is an external parameter: the harness compares emitted literals with a direct
evaluation of the same function in the running interpreter.
-/
namespace PV.Props.C12
open PV.Constexpr

theorem scan_append (pre rest : List Char) (prev : Bool) (hlast : ∀ c, pre.getLast? = some c → isWord c = false)
    (hprev : pre = [] → prev = false) (hw : wordHere rest = true) (hne : rest ≠ []) :
    scan (pre ++ rest) prev = true := by
  induction pre generalizing prev with
  | nil =>
    obtain ⟨c, r, rfl⟩ := List.exists_cons_of_ne_nil hne
    simp [scan, hprev rfl, hw]
  | cons c cs ih =>
    rw [List.cons_append, scan, Bool.or_eq_true]
    refine .inr (ih _ (fun x hx => hlast x ?_) fun hnil => hlast c (by rw [hnil]; rfl))
    cases cs with
    | nil => cases hx
    | cons y ys => rwa [List.getLast?_cons_cons]

/-- **a forbidden word standing as a whole word anywhere in the source is found** -/
theorem forbidden_word_rejected (pre w post : List Char) (hw : w ∈ forbidden)
    (hpre : ∀ c, pre.getLast? = some c → isWord c = false) (hpost : ∀ c, post.head? = some c → isWord c = false) :
    hasForbidden (pre ++ w ++ post) = true := by
  have hne : w ++ post ≠ [] := fun h => absurd ((List.append_eq_nil_iff.mp h).1 ▸ hw) (by decide +kernel)
  unfold hasForbidden
  rw [List.append_assoc]
  apply scan_append pre (w ++ post) false hpre (fun _ => rfl) ?_ hne
  unfold wordHere
  rw [List.any_eq_true]
  refine ⟨w, hw, ?_⟩
  rw [List.drop_left, Bool.and_eq_true]
  refine ⟨List.isPrefixOf_iff_prefix.mpr (List.prefix_append w post), ?_⟩
  cases post with
  | nil => rfl
  | cons c rest => simp [hpost c rfl]

/-- the prefix cannot hide the word (same statement with the empty suffix) -/
theorem scan_prefix_irrelevant (pre w : List Char) (hw : w ∈ forbidden) (hpre : ∀ c, pre.getLast? = some c → isWord c = false) :
    hasForbidden (pre ++ w) = true := by
  have := forbidden_word_rejected pre w [] hw hpre (by intro c h; simp at h)
  simpa using this

/-- **the script — hence the value — depends on the constexpr sources and the call text only** -/
theorem script_position_independent (prelude fs call : List Char) (pos₁ pos₂ : Nat) :
    (fun (_ : Nat) => script prelude fs call) pos₁ = (fun (_ : Nat) => script prelude fs call) pos₂ := rfl

theorem int_result_roundtrip (hashes : List Int) (n : Int) : PV.Digits.parseNum (PV.Digits.formatInt hashes n) = some n :=
  PV.Digits.formatInt_roundtrip hashes n

/-! non-vacuity -/
-- `String.toList_ofList` first: the kernel would evaluate `String.toList` of a literal by UTF-8 decoding, which is dear
example : hasForbidden "def k(a):\n    return eval('1')".toList = true := by
  rw [String.toList_ofList]; decide +kernel
example : hasForbidden "def k(a):\n    return evaluate(opened) + exec_".toList = false := by
  rw [String.toList_ofList]; decide +kernel
example : hasForbidden "x = open".toList = true := by
  rw [String.toList_ofList]; decide +kernel

end PV.Props.C12

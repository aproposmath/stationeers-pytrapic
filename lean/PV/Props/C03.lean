import PV.Model.Fold
import PV.Gen.Tables
/-!
# C03 — compile-time evaluation gives the same value the chip would compute   (partial: integer operators)

The operator tables regenerated from utils.py on every run are shown equal to hand-written specification tables (a
changed lambda or opcode breaks exactly that obligation); for the rows of the latter whose operator is an exact integer
operation, the value Python computes when folding equals the value of the paired IC10 opcode at run time, for ALL integer
operands in the unambiguous range (`Guard`: positive modulus, non-negative shift count, non-negative value for `>>`).
`~` has no existing opcode (F-C03-c).
`/`, `**`, math functions, HASH/STR, list indexing and propagation through variables are decided on the running interpreter
by the property's own experiment (constant operand vs the same operand loaded from the stack), see harness/c03.py.
-/
namespace PV.Props.C03
open PV.Fold PV.Gen

/-- **the regenerated tables are the specification tables** — the same rows, in whatever order the source lists them -/
theorem tables_are_spec :
    (∀ r ∈ binopTable, r ∈ specBinops) ∧ (∀ r ∈ specBinops, r ∈ binopTable) ∧ binopTable.length = specBinops.length ∧
    (∀ r ∈ unopTable, r ∈ specUnops) ∧ (∀ r ∈ specUnops, r ∈ unopTable) ∧ unopTable.length = specUnops.length := by decide +kernel

theorem icmod_eq_pymod (a b : Int) (hb : 0 < b) :
    (if Int.tmod a b < 0 then Int.tmod a b + b else Int.tmod a b) = Int.fmod a b := by
  rw [Int.fmod_eq_emod_of_nonneg a (Int.le_of_lt hb), Int.tmod_eq_emod]
  have h1 := Int.emod_nonneg a (Int.ne_of_gt hb)
  have h2 := Int.emod_lt_of_pos a hb
  -- `tmod a b` is `a % b` or `a % b - b`, negative exactly in the second case
  by_cases hd : 0 ≤ a ∨ b ∣ a
  · rw [if_pos hd]
    split <;> omega
  · rw [if_neg hd]
    split <;> omega

/-- **folding an integer operator = running its opcode**, all operands in the unambiguous range -/
theorem fold_binop_agrees_partial (op opcode : String) (fn : PyExpr) (hrow : (op, opcode, fn) ∈ specBinops)
    (hag : op ∈ agreeing) (a b : Int) (hg : Guard op a b) :
    ∃ v, pyEval [a, b] fn = some v ∧ icAlu opcode [a, b] = some v.num := by
  obtain ⟨gmod, gshl, gshr⟩ := hg
  simp only [specBinops, List.mem_cons, Prod.mk.injEq, List.mem_nil_iff, or_false] at hrow
  rcases hrow with ⟨rfl, rfl, rfl⟩ | ⟨rfl, rfl, rfl⟩ | ⟨rfl, rfl, rfl⟩ | ⟨rfl, rfl, rfl⟩ | ⟨rfl, rfl, rfl⟩ | ⟨rfl, rfl, rfl⟩ |
    ⟨rfl, rfl, rfl⟩ | ⟨rfl, rfl, rfl⟩ | ⟨rfl, rfl, rfl⟩ | ⟨rfl, rfl, rfl⟩ | ⟨rfl, rfl, rfl⟩ | ⟨rfl, rfl, rfl⟩ | ⟨rfl, rfl, rfl⟩ |
    ⟨rfl, rfl, rfl⟩ | ⟨rfl, rfl, rfl⟩ | ⟨rfl, rfl, rfl⟩ | ⟨rfl, rfl, rfl⟩ | ⟨rfl, rfl, rfl⟩
  -- Where nothing is guarded both sides compute to the same term.  (`simp [pyEval]` is avoided: generating the
  -- equation lemmas of a definition that matches on string literals takes seconds.)
  -- + - *
  · exact ⟨_, rfl, rfl⟩
  · exact ⟨_, rfl, rfl⟩
  · exact ⟨_, rfl, rfl⟩
  -- / is not an agreeing row
  · exact absurd hag (by decide +kernel)
  -- % : both sides are an `if b = 0`
  · have hne : b ≠ 0 := by have := gmod rfl; omega
    exact ⟨_, if_neg hne, (if_neg hne).trans (congrArg some (icmod_eq_pymod a b (gmod rfl)))⟩
  -- ** , and, or are not agreeing rows
  · exact absurd hag (by decide +kernel)
  · exact absurd hag (by decide +kernel)
  · exact absurd hag (by decide +kernel)
  -- ^ &
  · exact ⟨_, rfl, rfl⟩
  · exact ⟨_, rfl, rfl⟩
  -- >> << : both sides are an `if` on the signs
  · have h1 : ¬ b < 0 := by have := gshr rfl; omega
    have h2 : ¬ (b < 0 ∨ a < 0) := by have := gshr rfl; omega
    exact ⟨_, if_neg h1, if_neg h2⟩
  · have h1 : ¬ b < 0 := by have := gshl rfl; omega
    exact ⟨_, if_neg h1, if_neg h1⟩
  -- comparisons
  · exact ⟨_, rfl, rfl⟩
  · exact ⟨_, rfl, rfl⟩
  · exact ⟨_, rfl, rfl⟩
  · exact ⟨_, rfl, rfl⟩
  · exact ⟨_, rfl, rfl⟩
  · exact ⟨_, rfl, rfl⟩

/-- **`and` / `or` of truth values**: for operands 0 or 1 the folded value equals the bitwise opcode -/
theorem fold_bool_ops_01 (op opcode : String) (fn : PyExpr) (hrow : (op, opcode, fn) ∈ specBinops)
    (hop : op = "and" ∨ op = "or") (a b : Int) (ha : a = 0 ∨ a = 1) (hb : b = 0 ∨ b = 1) :
    ∃ v, pyEval [a, b] fn = some v ∧ icAlu opcode [a, b] = some v.num := by
  have key : ∀ r ∈ specBinops, r.1 = "and" ∨ r.1 = "or" → ∀ a ∈ [(0 : Int), 1], ∀ b ∈ [(0 : Int), 1],
      ∃ v ∈ pyEval [a, b] r.2.2, icAlu r.2.1 [a, b] = some v.num := by decide +kernel
  exact key _ hrow hop a (by simpa using ha) b (by simpa using hb)

/-- `-x` folds like `sub 0 x`, `not x` like `seqz x` — all integers -/
theorem fold_unop_agrees (op opcode : String) (fn : PyExpr) (hrow : (op, opcode, fn) ∈ specUnops) (hop : op ≠ "~") (a : Int) :
    ∃ v, pyEval [a] fn = some v ∧ icUnop opcode a = some v.num := by
  simp only [specUnops, List.mem_cons, Prod.mk.injEq, List.mem_nil_iff, or_false] at hrow
  rcases hrow with ⟨rfl, rfl, rfl⟩ | ⟨rfl, rfl, rfl⟩ | ⟨rfl, rfl, rfl⟩
  · exact ⟨_, rfl, congrArg some (Int.zero_sub a)⟩
  · exact absurd rfl hop
  · refine ⟨_, rfl, ?_⟩
    show some (b2i (decide (a = 0))) = some (PyVal.num (.bool (!!decide (a = 0))))
    cases decide (a = 0) <;> rfl

/-- F-C03-b (known): Python's `and` returns an operand, the chip's `and` is bitwise — they differ beyond truth values -/
theorem and_differs_beyond_01 : ∃ a b : Int, (pyEval [a, b] (.boolop "and" (.e (.param 0)) (.e (.param 1)))).map PyVal.num ≠ icAlu "and" [a, b] :=
  ⟨2, 4, by decide +kernel⟩

/-! non-vacuity -/
example : Guard "%" (-7) 3 ∧ (pyEval [-7, 3] (.bin "mod" (.e (.param 0)) (.e (.param 1)))) = some (.int 2) ∧ icAlu "mod" [-7, 3] = some 2 := by
  refine ⟨⟨fun _ => by omega, fun h => by simp at h, fun h => by simp at h⟩, by decide +kernel, by decide +kernel⟩

end PV.Props.C03

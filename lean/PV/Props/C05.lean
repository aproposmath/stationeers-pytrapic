import PV.Model.Labels
import PV.Proofs.StripTy
/-!
# C05 — every jump lands where it was meant to   (labels and their removal)

Text level: about the declarative label semantics `PV.Labels`, tied to the real `remove_labels` by the correspondence run of
`harness/c05.py`: the real output with labels removed must equal `specRemove` of the real output with labels kept.
-/
namespace PV.Props.C05
open PV.Labels

theorem labelIndexFrom_add (l : String) : ∀ (p : List Line) (b c : Nat),
    labelIndexFrom l p (b + c) = (labelIndexFrom l p b).map (· + c) := by
  intro p
  induction p with
  | nil => intro b c; rfl
  | cons x xs ih =>
    intro b c
    cases x with
    | label nm =>
      simp only [labelIndexFrom]
      split
      · rfl
      · exact ih b c
    | instr t =>
      simp only [labelIndexFrom]
      rw [show b + c + 1 = (b + 1) + c by omega]
      exact ih (b + 1) c

theorem labelIndexFrom_le (l : String) : ∀ (p : List Line) (b n : Nat),
    labelIndexFrom l p b = some n → b ≤ n ∧ n ≤ b + countInstrs p
  | [], _, _, h => nomatch h
  | .label nm :: xs, b, n, h => by
    simp only [labelIndexFrom] at h
    split at h
    · cases h; simp [countInstrs]
    · exact labelIndexFrom_le l xs b n h
  | .instr _ :: xs, b, n, h => by
    have := labelIndexFrom_le l xs (b + 1) n h
    simp only [countInstrs]; omega

/-- **every numeric target exists**: the index a label stands for is at most the number of instructions (equal only for a
    label at the very end, which means "stop") -/
theorem labelIndex_le (p : List Line) (l : String) (n : Nat) (h : labelIndex p l = some n) : n ≤ countInstrs p := by
  have := (labelIndexFrom_le l p 0 n h).2
  omega

theorem labelIndexFrom_none (l : String) : ∀ (p : List Line) (b : Nat), defCount l p = 0 → labelIndexFrom l p b = none
  | [], _, _ => rfl
  | .label nm :: xs, b, h => by
    simp only [defCount] at h
    have hne : nm ≠ l := by intro e; simp [e] at h
    simp only [labelIndexFrom, hne, if_false]
    exact labelIndexFrom_none l xs b (by simpa [hne] using h)
  | .instr _ :: xs, b, h => labelIndexFrom_none l xs (b + 1) h

theorem labelIndexFrom_append (l : String) : ∀ (pre post : List Line) (b : Nat),
    labelIndexFrom l (pre ++ post) b = (labelIndexFrom l pre b).or (labelIndexFrom l post (b + countInstrs pre))
  | [], post, b => by simp [labelIndexFrom, countInstrs]
  | .label nm :: xs, post, b => by
    simp only [List.cons_append, labelIndexFrom, countInstrs]
    split
    · rfl
    · exact labelIndexFrom_append l xs post b
  | .instr _ :: xs, post, b => by
    simp only [List.cons_append, labelIndexFrom, countInstrs]
    rw [labelIndexFrom_append l xs post (b + 1)]
    congr 2; omega

/-- **a label stands for the index of the instruction that follows it** -/
theorem labelIndex_correct (l : String) (pre post : List Line) (h : defCount l pre = 0) :
    labelIndex (pre ++ Line.label l :: post) l = some (countInstrs pre) := by
  unfold labelIndex
  rw [labelIndexFrom_append, labelIndexFrom_none l pre 0 h]
  simp [labelIndexFrom]

def instrs : List Line → List (List String)
  | [] => []
  | .label _ :: rest => instrs rest
  | .instr t :: rest => t :: instrs rest

theorem instrs_length (p : List Line) : (instrs p).length = countInstrs p := by
  induction p with
  | nil => rfl
  | cons x xs ih => cases x <;> simp [instrs, countInstrs, ih]

theorem specRemoveAux_eq (p : List Line) : ∀ q, specRemoveAux p q = (instrs q).map (substInstr p) := by
  intro q
  induction q with
  | nil => rfl
  | cons x xs ih => cases x <;> simp [specRemoveAux, instrs, ih]

/-- **line for line**: the label-free program is the list of instruction lines, each with its operands substituted -/
theorem specRemove_eq_map (p : List Line) : specRemove p = (instrs p).map (substInstr p) := specRemoveAux_eq p p

theorem specRemove_length (p : List Line) : (specRemove p).length = countInstrs p := by
  rw [specRemove_eq_map, List.length_map, instrs_length]

/-- an operand that is not a label is left exactly as it is -/
theorem substTok_other (p : List Line) (tok : String) (h : labelIndex p tok = none) : substTok p tok = tok := by
  simp [substTok, h]

/-- an operand that is a label becomes the index of the instruction following the label -/
theorem substTok_label (l : String) (pre post : List Line) (h : defCount l pre = 0) :
    substTok (pre ++ Line.label l :: post) l = toString (countInstrs pre) := by
  simp [substTok, labelIndex_correct l pre post h]

/-- the opcode is never touched -/
theorem substInstr_head (p : List Line) (op : String) (args : List String) :
    (substInstr p (op :: args)).head? = some op := rfl

/-- label lines do not count: the index of every other label is unchanged when an unrelated label definition is
    deleted (this is why dropping unused labels first does not move any target) -/
theorem labelIndex_erase_other (l m : String) (hne : m ≠ l) : ∀ (pre post : List Line) (b : Nat),
    labelIndexFrom l (pre ++ Line.label m :: post) b = labelIndexFrom l (pre ++ post) b := by
  intro pre post b
  rw [labelIndexFrom_append, labelIndexFrom_append]
  simp [labelIndexFrom, hne]

example : specRemove [.instr ["move", "r0", "0"], .label "lbwhile1", .instr ["bge", "r0", "3", "lbwhile.end1"],
    .instr ["add", "r0", "r0", "1"], .instr ["j", "lbwhile1"], .label "lbwhile.end1"]
    = [["move", "r0", "0"], ["bge", "r0", "3", "4"], ["add", "r0", "r0", "1"], ["j", "1"]] := by decide

/-! ### machine level: removing the labels does not change what the chip does (programs of direct control flow)

`harness/c05.py` (`strip-compare`) checks per REAL output pair that the label-free output IS `strip` of the labelled one and
that every kept line is `simple` (no `jal`, no relative branch); for those pairs the theorem below speaks about the real
artefacts. -/

open PV.IC10 in
/-- **label removal preserves behaviour**: both programs produce the same effect traces and halt alike, the labelled one
    spending extra steps on its label lines — every environment, every start state, any number of steps -/
theorem label_removal_preserves_traces {R V : Type} [DecidableEq R] [Special R] (sem : Sem V) (lit : Nat → V) (L : Nat → Bool)
    (env : Env V) (P : List (Instr R V)) (hok : PV.Strip.Ok sem lit L P) (s s' : St R V) (h : PV.Strip.Sim L s s') :
    (∀ m, ∃ k, k ≤ m ∧ (run sem env P m s).trace = (run sem env (PV.Strip.strip sem lit L P) k s').trace ∧
        (run sem env P m s).halted = (run sem env (PV.Strip.strip sem lit L P) k s').halted) ∧
    (∀ k, ∃ m, k ≤ m ∧ (run sem env P m s).trace = (run sem env (PV.Strip.strip sem lit L P) k s').trace ∧
        (run sem env P m s).halted = (run sem env (PV.Strip.strip sem lit L P) k s').halted) :=
  ⟨fun m => let ⟨k, hk, hs⟩ := PV.Strip.strip_sim_fwd sem lit L env P hok m s s' h; ⟨k, hk, hs.trace.symm, hs.halted.symm⟩,
   fun k => let ⟨m, hm, hs⟩ := PV.Strip.strip_sim_bwd sem lit L env P hok k s s' h; ⟨m, hm, hs.trace.symm, hs.halted.symm⟩⟩

theorem initial_states_related {R V : Type} (L : Nat → Bool) (regs : R → V) (mem : Nat → V) :
    PV.Strip.Sim L (⟨regs, mem, 0, [], false⟩ : PV.IC10.St R V) ⟨regs, mem, 0, [], false⟩ :=
  .start rfl

open PV.IC10 in
/-- **label removal preserves behaviour, programs with calls included**: if on a run of the labelled program no line number is
    ever used as a value (`tyRun` succeeds for its first `m` steps), the label-free program reaches in at most `m` steps a state
    with the same effect trace and the same halting flag.  `harness/c05.py` (`strip-run`) evaluates `tyRun` on the runs it
    performs on REAL output pairs. -/
theorem label_removal_preserves_traces_typed {R V : Type} [DecidableEq R] [Special R] (sem : Sem V) (L : Nat → Bool) (lit : Nat → V)
    (env : Env V) (P : List (Instr R V)) (hsp : (Special.sp : R) ≠ Special.ra) (hok : PV.Strip.OkT sem L lit P)
    (regs : R → V) (mem : Nat → V) (m : Nat)
    (hwt : (PV.Strip.tyRun sem env P L m (⟨regs, mem, 0, [], false⟩ : St R V) PV.Strip.Ty.none).isSome = true) :
    ∃ k, k ≤ m ∧
      (run sem env (PV.Strip.strip sem lit L P) k ⟨regs, mem, 0, [], false⟩).trace = (run sem env P m ⟨regs, mem, 0, [], false⟩).trace ∧
      (run sem env (PV.Strip.strip sem lit L P) k ⟨regs, mem, 0, [], false⟩).halted = (run sem env P m ⟨regs, mem, 0, [], false⟩).halted :=
  let ⟨T, hT⟩ := Option.isSome_iff_exists.mp hwt
  let ⟨k, hk, hs⟩ := PV.Strip.strip_sim_typed sem L lit env P hsp hok m _ T _ _ (.start sem L rfl) hT
  ⟨k, hk, hs.trace, hs.halted⟩

/-! non-vacuity: `yield ; loop: s … ; j loop` on integers satisfies the hypotheses; its stripped form jumps to line 1 (one kept
    line stands before the label, so in this example renumbering changes no number) -/
section demo
open PV.IC10

instance : Special Nat := ⟨16, 17⟩

def demoSem : Sem Int :=
  { alu := fun _ _ => 0, cond := fun _ _ => false, toAddr := fun v => if v < 0 then none else some v.toNat,
    ofNat := fun n => (n : Int), truthy := fun v => v != 0 }

def demoP : List (Instr Nat Int) :=
  [⟨.yield, none, []⟩, ⟨.nop, none, []⟩, ⟨.store "s", none, [.num 1]⟩, ⟨.jmp, none, [.num 1]⟩]

def demoL : Nat → Bool := fun i => i == 1

example : PV.Strip.Ok demoSem (fun n => (n : Int)) demoL demoP := by
  refine ⟨?_, ?_, ?_⟩
  · intro i h
    have : i = 1 := by simpa [demoL] using h
    subst this; rfl
  · intro i x h hl
    match i, h, hl with
    | 0, h, _ => simp [demoP] at h; subst h; rfl
    | 1, _, hl => simp [demoL] at hl
    | 2, h, _ => simp [demoP] at h; subst h; rfl
    | 3, h, _ => simp [demoP] at h; subst h; rfl
    | n + 4, h, _ => simp [demoP] at h
  · intro n; simp [demoSem]

example : PV.Strip.strip demoSem (fun n => (n : Int)) demoL demoP =
    [⟨.yield, none, []⟩, ⟨.store "s", none, [.num 1]⟩, ⟨.jmp, none, [.num 1]⟩] := by
  simp [PV.Strip.strip, PV.Strip.stripFrom, demoL, demoP, PV.Strip.renum, PV.Strip.isDirect, PV.Strip.renumLast, PV.Strip.renumOpnd,
    demoSem, PV.Strip.rho]


/-- a program with a call: `jal f ; hcf ; f: ; s … ; j ra` — its first 6 steps are well typed -/
def demoCall : List (Instr Nat Int) :=
  [⟨.jal, none, [.num 2]⟩, ⟨.hcf, none, []⟩, ⟨.nop, none, []⟩, ⟨.store "s", none, [.num 1]⟩, ⟨.jmp, none, [.reg 17]⟩]
example : (PV.Strip.tyRun demoSem (fun _ _ _ => 0) demoCall (fun i => i == 2) 6 (⟨fun _ => 0, fun _ => 0, 0, [], false⟩ : St Nat Int)
    PV.Strip.Ty.none).isSome = true := by decide

end demo

end PV.Props.C05

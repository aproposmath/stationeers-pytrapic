import PV.Model.Modules
/-!
# C13 — library modules behave like the same code written in the main file   (partial)

What is proved is about names only: scope keys of different library modules never coincide (equal names in different
modules never share storage), `__name__` folds to the module's name inside a library, and function labels are injective
on names without underscores.
The behavioural statement (split program = single-file program with prefixed names) is explored on the real transpiler by
compiling both and comparing machine traces (harness/c13.py).
-/
namespace PV.Props.C13
open PV.Modules

/-- the part of a library scope key before the first dot is the module name -/
theorem module_head (m : List Char) (f : Option (List Char)) (hm : dotFree m) (hne : m ≠ []) :
    (scopeKey m f).takeWhile (· ≠ '.') = m := by
  have hm' : ∀ rest, (m ++ rest).takeWhile (· ≠ '.') = m ++ rest.takeWhile (· ≠ '.') := fun rest =>
    List.takeWhile_append_of_pos fun c hc => decide_eq_true (hm c hc)
  cases f with
  | none => simpa [scopeKey] using hm' []
  | some fn =>
    simp only [scopeKey, List.isEmpty_eq_false_iff.mpr hne, Bool.false_eq_true, if_false]
    rw [hm', List.takeWhile_cons_of_neg (by simp), List.append_nil]

/-- **equal names in different modules never share storage**: scope keys of different library modules differ -/
theorem scope_keys_disjoint (m₁ m₂ : List Char) (f₁ f₂ : Option (List Char)) (h₁ : dotFree m₁) (h₂ : dotFree m₂)
    (hne₁ : m₁ ≠ []) (hne₂ : m₂ ≠ []) (hdiff : m₁ ≠ m₂) : scopeKey m₁ f₁ ≠ scopeKey m₂ f₂ := by
  intro h
  have e₁ := module_head m₁ f₁ h₁ hne₁
  have e₂ := module_head m₂ f₂ h₂ hne₂
  rw [h, e₂] at e₁
  exact hdiff e₁.symm

/-- **a library's `if __name__ == "__main__"` block is dead**: `__name__` folds to the module name there -/
theorem name_is_not_main_in_library (m : List Char) (f : Option (List Char)) (hm : dotFree m) (hne : m ≠ [])
    (hnot : m ≠ "__main__".toList) : nameConst (scopeKey m f) = m ∧ nameConst (scopeKey m f) ≠ "__main__".toList := by
  have : nameConst (scopeKey m f) = m := by
    simp only [nameConst, module_head m f hm hne, List.isEmpty_eq_false_iff.mpr hne, Bool.false_eq_true, if_false]
  exact ⟨this, this.symm ▸ hnot⟩

/-- at module level of the main file `__name__` is "__main__": the statement is about `f = none` only and does not use
    `hf`.  (Inside a function of the main file the model's `nameConst` gives the function's name, see `PV.Modules.nameConst`.) -/
theorem name_is_main_in_main (f : Option (List Char)) (hf : ∀ fn, f = some fn → dotFree fn ∧ fn ≠ []) :
    f = none → nameConst (scopeKey [] f) = "__main__".toList := by
  intro h; subst h; rfl

/-- labels are injective on qualified names without underscores (the mangling is the identity there) -/
theorem mangle_injective_partial (a b : List Char) (ha : ∀ c ∈ a, c ≠ '_') (hb : ∀ c ∈ b, c ≠ '_') (h : mangle a = mangle b) : a = b := by
  have ida : ∀ l : List Char, (∀ c ∈ l, c ≠ '_') → mangle l = l := by
    intro l hl
    induction l with
    | nil => rfl
    | cons c cs ih =>
      rw [mangle, List.map_cons, if_neg (hl c (List.mem_cons_self ..))]
      exact congrArg (c :: ·) (ih fun x hx => hl x (List.mem_cons_of_mem _ hx))
  rw [ida a ha, ida b hb] at h
  exact h

/-- F-C05-b witness: with underscores two different functions get the same label -/
example : mangle "a_b".toList = mangle "a.b".toList ∧ "a_b".toList ≠ "a.b".toList := by decide

end PV.Props.C13

import PV.Model.Version
import PV.Proofs.Digits
import PV.IC10.Parse
/-!
# C09 — emitted text is loadable IC10   (partial: numerals and version note proved; grammar by the loader model)

Two things the emitter adds to the text are proved harmless: integer literals (`formatInt`) read back as themselves, and
the version note (`addVersion`) changes at most one line, keeps it short and is a trailing comment there.
The grammar itself (existing opcode, operand count and kinds, register and device spellings, no placeholders) is the
hand-written loader model `PV.IC10.Parse` / `PV.IC10.Spec`, run on every real output by the harness.
-/
namespace PV.Props.C09
open PV.Version PV.Digits PV.IC10.Parse

/-- every integer literal the transpiler prints (decimal or `$HEX`) reads back as itself -/
theorem formatInt_roundtrip (hashes : List Int) (n : Int) : parseNum (formatInt hashes n) = some n :=
  PV.Digits.formatInt_roundtrip hashes n

/-- **first fit** in core's vocabulary: the note is appended at the index of the first line it fits on; if it fits on none,
    that index is the length of the list and nothing is modified -/
theorem addVersion_eq_modify (note : List Char) (ls : List (List Char)) :
    addVersion note ls = ls.modify (ls.findIdx fun l => l.length + note.length < 89) (· ++ note) := by
  fun_induction addVersion note ls with
  | case1 => rfl
  | case2 l ls h => simp [List.findIdx_cons, h]
  | case3 l ls h ih => simp [List.findIdx_cons, h, ih]

theorem version_note_length (note : List Char) (ls : List (List Char)) : (addVersion note ls).length = ls.length := by
  rw [addVersion_eq_modify, List.length_modify]

/-- every line of the result is the original line, or the original line (short enough) with the note appended -/
theorem version_note_lines (note : List Char) (ls : List (List Char)) (i : Nat) (h : i < ls.length) :
    (addVersion note ls)[i]'(by rw [version_note_length]; exact h) = ls[i] ∨
    ((addVersion note ls)[i]'(by rw [version_note_length]; exact h) = ls[i] ++ note ∧ (ls[i] ++ note).length < 89) := by
  simp only [addVersion_eq_modify, List.getElem_modify]
  split
  · rename_i e
    subst e
    exact .inr ⟨rfl, by simpa using List.findIdx_getElem (w := h)⟩
  · exact .inl rfl

/-- **the note keeps its line within 90 characters**: a line of the result is longer than 90 only if the original was
    (90 is the property's number; the code appends only where the result stays below 89) -/
theorem version_note_fits (note : List Char) (ls : List (List Char)) (i : Nat) (h : i < ls.length) :
    ((addVersion note ls)[i]'(by rw [version_note_length]; exact h)).length ≤ 90 ∨
    (addVersion note ls)[i]'(by rw [version_note_length]; exact h) = ls[i] := by
  rcases version_note_lines note ls i h with h1 | ⟨h1, h2⟩
  · right; exact h1
  · left; rw [h1]; omega

/-- at most one line is changed -/
theorem version_note_once (note : List Char) (ls : List (List Char)) :
    addVersion note ls = ls ∨ ∃ pre l post, ls = pre ++ l :: post ∧ addVersion note ls = pre ++ (l ++ note) :: post := by
  rw [addVersion_eq_modify]
  by_cases h : (ls.findIdx fun l => l.length + note.length < 89) < ls.length
  · obtain ⟨pre, l, post, h1, _, h2⟩ := List.exists_of_modify (· ++ note) h
    exact .inr ⟨pre, l, post, h1, h2⟩
  · exact .inl (List.modify_eq_self (Nat.le_of_not_lt h))

theorem stripComment_cons (c : Char) (rest : List Char) (inq : Bool) (hc : c ≠ '#') :
    stripComment (c :: rest) inq = c :: stripComment rest (if c = '"' then !inq else inq) := by
  rw [stripComment]
  split
  · rfl
  · simp [hc]

theorem stripComment_no_hash (l : List Char) (inq : Bool) (h : ∀ c ∈ l, c ≠ '#') (tail : List Char) :
    stripComment (l ++ tail) inq = l ++ stripComment tail (l.foldl (fun q c => if c = '"' then !q else q) inq) := by
  induction l generalizing inq with
  | nil => rfl
  | cons c l ih =>
    rw [List.cons_append, stripComment_cons c _ inq (h c (List.mem_cons_self ..)), List.foldl_cons,
      ih _ fun x hx => h x (List.mem_cons_of_mem _ hx)]
    rfl

/-- **the version note is a trailing comment**: appended to a comment-free line with balanced quotes, the loader's
    view of the line (comment stripped) is the line followed by the blanks before the `#` -/
theorem version_note_is_comment (l blanks note : List Char) (h : ∀ c ∈ l, c ≠ '#')
    (hbal : l.foldl (fun q c => if c = '"' then !q else q) false = false)
    (hb : ∀ c ∈ blanks, c = ' ') :
    stripComment (l ++ blanks ++ '#' :: note) false = l ++ blanks := by
  rw [List.append_assoc, stripComment_no_hash l false h, hbal]
  congr 1
  induction blanks with
  | nil => simp [stripComment]
  | cons c cs ih =>
    obtain rfl : c = ' ' := hb c (List.mem_cons_self ..)
    rw [List.cons_append, stripComment_cons ' ' _ false (by decide), if_neg (by decide),
      ih fun x hx => hb x (List.mem_cons_of_mem _ hx)]

example : addVersion " # v1".toList ["a".toList, "b".toList] = ["a # v1".toList, "b".toList] := by decide
example : parseNum (formatInt [] 65536) = some 65536 ∧ formatInt [] 65536 = "$10000".toList := by decide +kernel

end PV.Props.C09

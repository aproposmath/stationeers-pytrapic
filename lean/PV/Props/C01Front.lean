import PV.Proofs.FrontStmt
import PV.Props.C01Strip
/-!
# C01 (front end + code generator) — from the Python dialect to the chip, for the proved fragment

`PV.Front.front_sound` / `front_prefix` relate the dialect semantics `PV.Src` to the core semantics of the flattened program; the
theorems here compose them with the code generator's correctness, for every environment (= every behaviour of the attached devices),
every initial register file with `sp = 0` and every fuel.  The statements fix the machine program in two shapes: `compProg lit s []`
with procedure table `procOf []` (`source_to_chip_running`) and `comp lit (fun _ => 0) s 0 0 0 0` with `fun _ => .skip` (the others); a
flattened program calls nothing, so both hold the same code at line 0, which is all `source_to_chip_prefix` asks for.
The tie to the real transpiler is per program (`harness/c01.py`, streams `incore*`): the real pre-allocation code is instruction for
instruction `comp (PV.Flatten.flatten p)`, and `PV.Flatten.flatten p = PV.Front.flatten p` on the fragment (`front` in `core-compare`).
Hypotheses about the value domain are collected in `PV.Front.SemOk`; `intSemOk` shows them satisfiable on the integers.
-/
namespace PV.Props.C01Front
open PV.IC10 PV.Core PV.Front

variable {V : Type}

/-- **source program → chip, terminating runs**: if the dialect semantics runs the main code to its end (`st'`), the chip running
    the model generator's code for the flattened program reaches exactly the effect trace of `st'`, halts, and the trace never
    changes again -/
theorem source_to_chip_done (sem : Sem V) (lo : Nat) (env : Env V) (lit : Nat → V) (hlit : ∀ n, sem.toAddr (lit n) = some n)
    (hof : ∀ n, sem.toAddr (sem.ofNat n) = some n) (hlo : lo ≤ stackSize) (cf : PV.Flatten.Cfg V) (hok : SemOk sem cf)
    (p : PV.Src.Program V) (s : Stmt V) (hflat : PV.Front.flatten cf p = some s) (hgood : Good sem lo (fun _ => False) s)
    (fuel : Nat) (zero : V) (st' : PV.Src.State V) (loc' : PV.Src.Store V)
    (hrun : PV.Src.execBlock sem env p fuel [] { globals := [], mem := fun _ => zero, sp := 0, trace := [] } p.main = (st', .ok (loc', .normal)))
    (regs0 : Reg → V) (hsp : regs0 Special.sp = sem.ofNat 0) :
    ∃ k, ∀ j, (run sem env (comp lit (fun _ => 0) s 0 0 0 0) (k + (j + 1)) (mk ⟨regs0, fun _ => zero, []⟩ 0)).trace = st'.trace ∧
              (run sem env (comp lit (fun _ => 0) s 0 0 0 0) (k + (j + 1)) (mk ⟨regs0, fun _ => zero, []⟩ 0)).halted = true := by
  obtain ⟨σ', hexec, htr, _⟩ := front_sound sem env (fun _ => Stmt.skip) cf hok p s hflat fuel zero st' loc' .normal hrun
    ⟨regs0, fun _ => zero, []⟩ (fun _ => rfl) rfl
  obtain ⟨k, _, hk⟩ := PV.Props.C01Core.compile_correct_done sem lo env lit hlit hof hlo s hgood fuel ⟨regs0, fun _ => zero, []⟩ σ' hsp
    (hexec fuel (Nat.le_refl _))
  exact ⟨k, fun j => ⟨(hk j).1.trans htr, (hk j).2⟩⟩

/-- **source program → chip, every prefix**: when the dialect semantics runs out of fuel having performed the effects `τ`, the chip
    reaches a state whose effect trace extends `τ` — whatever the flattened program does with at least as much fuel (it may still be
    running, or have ended), unless it leaves its domain (`stuck`: a stack address outside the stack).  `P` is any machine program that
    holds the code at line 0; the flattened program calls nothing, so `entry` and `F` are arbitrary. -/
theorem source_to_chip_prefix (sem : Sem V) (lo : Nat) (env : Env V) (lit : Nat → V) (hlit : ∀ n, sem.toAddr (lit n) = some n)
    (hof : ∀ n, sem.toAddr (sem.ofNat n) = some n) (hlo : lo ≤ stackSize) (cf : PV.Flatten.Cfg V) (hok : SemOk sem cf)
    (p : PV.Src.Program V) (s : Stmt V) (hflat : PV.Front.flatten cf p = some s) (hgood : Good sem lo (fun _ => False) s)
    (fuel : Nat) (zero : V) (st' : PV.Src.State V)
    (hrun : PV.Src.execBlock sem env p fuel [] { globals := [], mem := fun _ => zero, sp := 0, trace := [] } p.main = (st', .error .fuel))
    (σ0 : SSt V) (hmem : ∀ n, σ0.mem n = zero) (htr : σ0.trace = []) (hsp : σ0.regs Special.sp = sem.ofNat 0)
    {P : List (Instr Reg V)} {entry : Nat → Nat} (F : Nat → Stmt V) (hc : CodeAt P 0 (comp lit entry s 0 0 0 0))
    (m : Nat) (hm : fuel ≤ m) (hns : exec sem env F m s σ0 ≠ .stuck) :
    ∃ k, st'.trace <:+ (run sem env P k (mk σ0 0)).trace := by
  have hg := front_prefix sem env F cf hok p s hflat fuel zero st' hrun σ0 hmem htr m hm
  have hp := sound_closed (env := env) (F := F) hlit hof hlo hgood hc m σ0 hsp
  cases hr : exec sem env F m s σ0 with
  | ok e σ' =>
    rw [hr] at hg hp
    obtain ⟨k, _, hk, _⟩ := hp
    exact ⟨k, hk.trace ▸ hg⟩
  | timeout σ' =>
    rw [hr] at hg hp
    obtain ⟨k, _, _, _, _, hk⟩ := hp
    exact ⟨k, hk.trace ▸ hg⟩
  | stuck => exact absurd hr hns

/-- **source program → chip, programs that keep running** (the normal case on the chip: `while True:` at the end): when the
    dialect semantics runs out of fuel having performed the effects `τ`, and the flattened program is still running after as
    many loop iterations, the chip reaches a state whose effect trace extends `τ` — every finite prefix of the source behaviour is
    a prefix of the chip's -/
theorem source_to_chip_running (sem : Sem V) (lo : Nat) (env : Env V) (lit : Nat → V) (hlit : ∀ n, sem.toAddr (lit n) = some n)
    (hof : ∀ n, sem.toAddr (sem.ofNat n) = some n) (hlo : lo ≤ stackSize) (cf : PV.Flatten.Cfg V) (hok : SemOk sem cf)
    (p : PV.Src.Program V) (s : Stmt V) (hflat : PV.Front.flatten cf p = some s) (hgood : Good sem lo (fun _ => False) s)
    (fuel : Nat) (zero : V) (st' : PV.Src.State V)
    (hrun : PV.Src.execBlock sem env p fuel [] { globals := [], mem := fun _ => zero, sp := 0, trace := [] } p.main = (st', .error .fuel))
    (regs0 : Reg → V) (hsp : regs0 Special.sp = sem.ofNat 0) (σ' : SSt V)
    (hcore : exec sem env (procOf []) fuel s ⟨regs0, fun _ => zero, []⟩ = .timeout σ') :
    ∃ k, st'.trace <:+ (run sem env (compProg lit s []) k (mk ⟨regs0, fun _ => zero, []⟩ 0)).trace :=
  source_to_chip_prefix sem lo env lit hlit hof hlo cf hok p s hflat hgood fuel zero st' hrun ⟨regs0, fun _ => zero, []⟩ (fun _ => rfl) rfl hsp
    (procOf []) (C01Core.compProg_main lit s [])
    fuel (Nat.le_refl _) (by rw [hcore]; nofun)

/-- **source program → label-free chip program** (what `remove_labels=True` emits), terminating runs: composition with C05's
    label-removal simulation -/
theorem source_to_chip_done_stripped (sem : Sem V) (lo : Nat) (env : Env V) (lit : Nat → V) (hlit : ∀ n, sem.toAddr (lit n) = some n)
    (hof : ∀ n, sem.toAddr (sem.ofNat n) = some n) (hlo : lo ≤ stackSize) (cf : PV.Flatten.Cfg V) (hok : SemOk sem cf)
    (p : PV.Src.Program V) (s : Stmt V) (hflat : PV.Front.flatten cf p = some s) (hgood : Good sem lo (fun _ => False) s)
    (fuel : Nat) (zero : V) (st' : PV.Src.State V) (loc' : PV.Src.Store V)
    (hrun : PV.Src.execBlock sem env p fuel [] { globals := [], mem := fun _ => zero, sp := 0, trace := [] } p.main = (st', .ok (loc', .normal)))
    (regs0 : Reg → V) (hsp : regs0 Special.sp = sem.ofNat 0) :
    ∃ k, (run sem env (PV.Strip.strip sem lit (PV.Props.C01Strip.labelLines (comp lit (fun _ => 0) s 0 0 0 0)) (comp lit (fun _ => 0) s 0 0 0 0)) k
            (mk ⟨regs0, fun _ => zero, []⟩ 0)).trace = st'.trace ∧
         (run sem env (PV.Strip.strip sem lit (PV.Props.C01Strip.labelLines (comp lit (fun _ => 0) s 0 0 0 0)) (comp lit (fun _ => 0) s 0 0 0 0)) k
            (mk ⟨regs0, fun _ => zero, []⟩ 0)).halted = true := by
  obtain ⟨σ', hexec, htr, _⟩ := front_sound sem env (fun _ => Stmt.skip) cf hok p s hflat fuel zero st' loc' .normal hrun
    ⟨regs0, fun _ => zero, []⟩ (fun _ => rfl) rfl
  obtain ⟨k, hk1, hk2⟩ := PV.Props.C01Strip.compile_correct_done_stripped sem env lit hlit hof lo hlo s hgood fuel ⟨regs0, fun _ => zero, []⟩ σ' hsp
    (hexec fuel (Nat.le_refl _))
  exact ⟨k, hk1.trans htr, hk2⟩

/-- the label-free program, programs that keep running -/
theorem source_to_chip_running_stripped (sem : Sem V) (lo : Nat) (env : Env V) (lit : Nat → V) (hlit : ∀ n, sem.toAddr (lit n) = some n)
    (hof : ∀ n, sem.toAddr (sem.ofNat n) = some n) (hlo : lo ≤ stackSize) (cf : PV.Flatten.Cfg V) (hok : SemOk sem cf)
    (p : PV.Src.Program V) (s : Stmt V) (hflat : PV.Front.flatten cf p = some s) (hgood : Good sem lo (fun _ => False) s)
    (fuel : Nat) (zero : V) (st' : PV.Src.State V)
    (hrun : PV.Src.execBlock sem env p fuel [] { globals := [], mem := fun _ => zero, sp := 0, trace := [] } p.main = (st', .error .fuel))
    (regs0 : Reg → V) (hsp : regs0 Special.sp = sem.ofNat 0) (σ' : SSt V)
    (hcore : exec sem env (fun _ => Stmt.skip) fuel s ⟨regs0, fun _ => zero, []⟩ = .timeout σ') :
    ∃ k, st'.trace <:+ (run sem env (PV.Strip.strip sem lit (PV.Props.C01Strip.labelLines (comp lit (fun _ => 0) s 0 0 0 0)) (comp lit (fun _ => 0) s 0 0 0 0)) k
            (mk ⟨regs0, fun _ => zero, []⟩ 0)).trace := by
  obtain ⟨k, hk⟩ := source_to_chip_prefix sem lo env lit hlit hof hlo cf hok p s hflat hgood fuel zero st' hrun ⟨regs0, fun _ => zero, []⟩
    (fun _ => rfl) rfl hsp (fun _ => Stmt.skip)
    codeAt_self fuel (Nat.le_refl _) (by rw [hcore]; nofun)
  obtain ⟨k', hs⟩ := PV.Props.C01Strip.stripped_reaches sem env lit hlit lo s hgood ⟨regs0, fun _ => zero, []⟩ k
  exact ⟨k', hs.trace ▸ hk⟩

def intSem : Sem Int :=
  { alu := fun op vs => match op, vs with
      | "add", [a, b] => a + b
      | "sub", [a, b] => a - b
      | "mul", [a, b] => a * b
      | "move", [a] => a
      | "select", [c, a, b] => if c != 0 then a else b
      | "seqz", [a] => if a = 0 then 1 else 0
      | "slt", [a, b] => if a < b then 1 else 0
      | "sgt", [a, b] => if a > b then 1 else 0
      | "sle", [a, b] => if a ≤ b then 1 else 0
      | "sge", [a, b] => if a ≥ b then 1 else 0
      | "seq", [a, b] => if a = b then 1 else 0
      | "sne", [a, b] => if a ≠ b then 1 else 0
      | _, _ => 0,
    cond := fun c vs => match c, vs with
      | "lt", [a, b] => decide (a < b)
      | "gt", [a, b] => decide (a > b)
      | "le", [a, b] => decide (a ≤ b)
      | "ge", [a, b] => decide (a ≥ b)
      | "eq", [a, b] => decide (a = b)
      | "ne", [a, b] => decide (a ≠ b)
      | "nez", [a] => decide (a ≠ 0)
      | "eqz", [a] => decide (a = 0)
      | _, _ => false,
    toAddr := fun v => if v < 0 then none else some v.toNat, ofNat := fun n => (n : Int), truthy := fun v => v != 0 }

def intCfg : PV.Flatten.Cfg Int :=
  { zero := 0, negV := fun v => -v, isOne := fun v => v == 1, isNeg := fun v => v < 0, ofNat := fun n => (n : Int) }

theorem ite_ne_zero (p : Prop) [Decidable p] : ((if p then (1 : Int) else 0) != 0) = decide p := by
  by_cases h : p <;> simp [h]

/-- the condition suffix `branchPair` returns is the name of the ALU comparison without its `s`, whatever the tables hold -/
theorem branchPair_fst {op c neg : String} (h : PV.Flatten.branchPair op = some (c, neg)) : c = String.ofList (op.toList.drop 1) := by
  simp only [PV.Flatten.branchPair] at h
  split at h
  · simp only [Option.map_eq_some_iff, Prod.mk.injEq] at h
    obtain ⟨_, -, rfl, -⟩ := h; rfl
  · cases h

theorem intSemOk : SemOk intSem intCfg where
  zero := rfl
  neg v := Int.zero_sub v
  move _ := rfl
  one v h := by
    simp only [intCfg, beq_iff_eq] at h
    subst h; rfl
  cmp op c neg hc hb a b := by
    cases branchPair_fst hb
    have hop : op ∈ PV.Flatten.cmpNames := List.contains_iff_mem.mp hc
    simp only [PV.Flatten.cmpNames, List.mem_cons, List.not_mem_nil, or_false] at hop
    rcases hop with rfl | rfl | rfl | rfl | rfl | rfl
    · exact ite_ne_zero (a < b)
    · exact ite_ne_zero (a > b)
    · exact ite_ne_zero (a ≤ b)
    · exact ite_ne_zero (a ≥ b)
    · exact ite_ne_zero (a = b)
    · exact ite_ne_zero (a ≠ b)
  nez v := by
    show (v != 0) = decide (v ≠ 0)
    by_cases h : v = 0 <;> simp [h]
  select _ _ _ := rfl
  eqz v := ite_ne_zero (v = 0)

/-- a counting loop with a device write and a conditional; with the assignment of `z` in front (`demo0`) it is inside the fragment -/
def demo : PV.Src.Program Int :=
  { funcs := [],
    main := [
      .gassign "i" (.bin "add" (.num 0) (.gvar "z")),
      .while (.bin "slt" (.gvar "i") (.num 3)) [
        .gassign "i" (.bin "add" (.gvar "i") (.num 1)),
        .ite (.bin "seq" (.gvar "i") (.num 2)) [.write "s" [.gvar "i", .num 7]] [.yield]]] }

def demo0 : PV.Src.Program Int := { demo with main := .gassign "z" (.un "neg" (.bin "sub" (.num 0) (.read "l" [.num 5]))) :: demo.main }

/-- the demo is inside the fragment (`hflat` of `source_to_chip_done`) -/
example : (PV.Front.flatten intCfg demo0).isSome = true := by decide

def endsWith (p : PV.Src.Program Int) (fuel n : Nat) : Bool :=
  match PV.Src.execBlock intSem (fun _ _ _ => 0) p fuel [] { globals := [], mem := fun _ => 0, sp := 0, trace := [] } p.main with
  | (st, .ok (_, .normal)) => st.trace.length == n
  | _ => false

/-- the reference semantics runs it to its end, with three effects (`hrun`; `hgood` is not shown here) -/
example : endsWith demo0 20 3 = true := by decide +kernel

end PV.Props.C01Front

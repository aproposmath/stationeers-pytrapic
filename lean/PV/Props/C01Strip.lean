import PV.Props.C01Core
import PV.Proofs.Strip
/-!
# C01 ∘ C05 — the model generator's code is still correct after label removal

`comp p` contains its labels as lines that do nothing.  `comp_ok`: those lines are exactly the `nop` lines, and every other
line is `simple` (direct jumps with literal targets, no `jal`, no relative branch) — the hypothesis `PV.Strip.Ok` of the
label-removal theorem.  Hence the program `strip (comp p)` — what `remove_labels=True` emits for a core program — reaches every
effect trace the source reaches.
-/
namespace PV.Props.C01Strip
open PV.IC10 PV.Core PV.Strip

variable {V : Type}

def labelLines (P : List (Instr Reg V)) : Nat → Bool := fun n =>
  match P[n]? with
  | some i => i.kind == .nop
  | none => false

section
variable (sem : Sem V) {lit : Nat → V} (hlit : ∀ n, sem.toAddr (lit n) = some n)

def LineOk (x : Instr Reg V) : Prop := x = nopI ∨ (x.kind ≠ .nop ∧ simple sem x = true)

theorem lineOk_plain {k : Kind} {dst : Option Reg} {args : List (Opnd Reg V)} (hd : isDirect k = false) (he : isExcluded k = false) (hn : k ≠ .nop) :
    LineOk sem ⟨k, dst, args⟩ :=
  .inr ⟨hn, simple_plain hd he⟩

include hlit in
theorem lineOk_jmp {t : Nat} : LineOk sem ⟨.jmp, none, [.num (lit t)]⟩ :=
  .inr ⟨nofun, simple_jmp (by rw [hlit]; rfl)⟩

include hlit in
theorem lineOk_br {c : String} {args : List (Opnd Reg V)} {t : Nat} : LineOk sem ⟨.br c, none, args ++ [.num (lit t)]⟩ :=
  .inr ⟨nofun, simple_br (.inl ⟨c, rfl⟩) (lastIsLine_iff.2 ⟨args, lit t, t, rfl, hlit t⟩)⟩

include hlit in
theorem comp_lines (entry : Nat → Nat) : ∀ (p : Stmt V), NoCall p → ∀ {base cl bl rl : Nat}, ∀ x ∈ comp lit entry p base cl bl rl, LineOk sem x := by
  have nop : LineOk sem (nopI : Instr Reg V) := .inl rfl
  intro p
  -- `comp` of each form is a concatenation of single lines and of the code of the parts
  induction p <;> intro hnc base cl bl rl <;>
    simp only [comp, List.forall_mem_append, List.forall_mem_cons, List.not_mem_nil, false_imp_iff, implies_true, and_true]
  case call k => exact hnc.elim
  case alu | load | store | yield | sleep | getm | putm => exact lineOk_plain sem rfl rfl nofun
  case ret | brk | cont => exact lineOk_jmp sem hlit
  case seq p q ihp ihq => exact ⟨ihp hnc.1, ihq hnc.2⟩
  case ite c neg args p q ihp ihq => exact ⟨⟨⟨⟨lineOk_br sem hlit, ihp hnc.1⟩, lineOk_jmp sem hlit, nop⟩, ihq hnc.2⟩, nop⟩
  case ifThen c neg args p ihp => exact ⟨⟨lineOk_br sem hlit, ihp hnc⟩, nop, nop⟩
  case «while» c neg args body ih => exact ⟨⟨⟨nop, lineOk_br sem hlit⟩, ih hnc⟩, lineOk_jmp sem hlit, nop⟩
  case loop body ih => exact ⟨⟨nop, ih hnc⟩, lineOk_jmp sem hlit, nop⟩
  case inl body ih => exact ⟨⟨nop, ih hnc⟩, nop⟩
end

/-- **the generated code satisfies the hypothesis of the label-removal theorem**, with its `nop` lines as label lines -/
theorem comp_ok (sem : Sem V) (lit : Nat → V) (hlit : ∀ n, sem.toAddr (lit n) = some n) (p : Stmt V) (hnc : NoCall p) :
    PV.Strip.Ok sem lit (labelLines (comp lit (fun _ => 0) p 0 0 0 0)) (comp lit (fun _ => 0) p 0 0 0 0) := by
  refine ⟨?_, ?_, hlit⟩
  · intro i hi
    simp only [labelLines] at hi
    cases hx : (comp lit (fun _ => 0) p 0 0 0 0)[i]? with
    | none => rw [hx] at hi; cases hi
    | some x =>
      rw [hx] at hi
      have hm : x ∈ comp lit (fun _ => 0) p 0 0 0 0 := List.mem_of_getElem? hx
      rcases comp_lines sem hlit _ p hnc x hm with rfl | ⟨hk, _⟩
      · rfl
      · simp only [beq_iff_eq] at hi; exact absurd hi hk
  · intro i x hx hl
    have hm : x ∈ comp lit (fun _ => 0) p 0 0 0 0 := List.mem_of_getElem? hx
    rcases comp_lines sem hlit _ p hnc x hm with rfl | ⟨_, hs⟩
    · simp [labelLines, hx, nopI] at hl
    · exact hs

theorem stripped_reaches (sem : Sem V) (env : Env V) (lit : Nat → V) (hlit : ∀ n, sem.toAddr (lit n) = some n) (lo : Nat) (p : Stmt V)
    (hgood : Good sem lo (fun _ => False) p) (σ : SSt V) (k : Nat) :
    ∃ k', Sim (labelLines (comp lit (fun _ => 0) p 0 0 0 0)) (run sem env (comp lit (fun _ => 0) p 0 0 0 0) k (mk σ 0))
      (run sem env (strip sem lit (labelLines (comp lit (fun _ => 0) p 0 0 0 0)) (comp lit (fun _ => 0) p 0 0 0 0)) k' (mk σ 0)) :=
  have ⟨k', _, hs⟩ := strip_sim_fwd sem lit _ env _ (comp_ok sem lit hlit p (good_false_nocall sem lo p hgood)) k _ _ (Sim.start rfl)
  ⟨k', hs⟩

/-- **endless and long-running programs, labels removed**: every effect trace the source reaches is reached by the label-free
    code -/
theorem compile_correct_running_stripped (sem : Sem V) (env : Env V) (lit : Nat → V) (hlit : ∀ n, sem.toAddr (lit n) = some n)
    (hof : ∀ n, sem.toAddr (sem.ofNat n) = some n) (lo : Nat) (hlo : lo ≤ stackSize) (p : Stmt V) (hgood : Good sem lo (fun _ => False) p) (fuel : Nat) (σ σ' : SSt V)
    (hsp : σ.regs Special.sp = sem.ofNat 0) (h : exec sem env (fun _ => .skip) fuel p σ = .timeout σ') :
    ∃ k, (run sem env (strip sem lit (labelLines (comp lit (fun _ => 0) p 0 0 0 0)) (comp lit (fun _ => 0) p 0 0 0 0)) k (mk σ 0)).trace = σ'.trace ∧
         (run sem env (strip sem lit (labelLines (comp lit (fun _ => 0) p 0 0 0 0)) (comp lit (fun _ => 0) p 0 0 0 0)) k (mk σ 0)).halted = false := by
  have hp := sound_closed (env := env) (entry := fun _ => 0) (F := fun _ => .skip) hlit hof hlo hgood codeAt_self fuel σ hsp
  rw [h] at hp
  obtain ⟨k, pc, _, _, _, hk⟩ := hp
  obtain ⟨k', hs⟩ := stripped_reaches sem env lit hlit lo p hgood σ k
  exact ⟨k', hs.trace.trans hk.trace, hs.halted.trans hk.halted⟩

/-- **terminating programs, labels removed**: the label-free code reaches the source's final effect trace and stops -/
theorem compile_correct_done_stripped (sem : Sem V) (env : Env V) (lit : Nat → V) (hlit : ∀ n, sem.toAddr (lit n) = some n)
    (hof : ∀ n, sem.toAddr (sem.ofNat n) = some n) (lo : Nat) (hlo : lo ≤ stackSize) (p : Stmt V) (hgood : Good sem lo (fun _ => False) p) (fuel : Nat) (σ σ' : SSt V)
    (hsp : σ.regs Special.sp = sem.ofNat 0) (h : exec sem env (fun _ => .skip) fuel p σ = .done σ') :
    ∃ k, (run sem env (strip sem lit (labelLines (comp lit (fun _ => 0) p 0 0 0 0)) (comp lit (fun _ => 0) p 0 0 0 0)) k (mk σ 0)).trace = σ'.trace ∧
         (run sem env (strip sem lit (labelLines (comp lit (fun _ => 0) p 0 0 0 0)) (comp lit (fun _ => 0) p 0 0 0 0)) k (mk σ 0)).halted = true := by
  obtain ⟨k, _, hall⟩ := PV.Props.C01Core.compile_correct_done sem lo env lit hlit hof hlo p hgood fuel σ σ' hsp h
  obtain ⟨k', hs⟩ := stripped_reaches sem env lit hlit lo p hgood σ (k + (0 + 1))
  exact ⟨k', hs.trace.trans (hall 0).1, hs.halted.trans (hall 0).2⟩

end PV.Props.C01Strip
